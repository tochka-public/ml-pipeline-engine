import MLPE.Proofs.EngBasic

/-!
# Wake-up completeness of the notifications the engine sends (all programs, all states)

`notify s k` leaves no task blocked on `cond[k]`; later notifications never block anybody again.  Hence after the
`finally` of `_run_node` for node `u` nobody is blocked on the condition of a consumer of `u` — a direct successor, or a
successor of a switch node `u` is a case of (`__get_descendants` passes through switch nodes) —, nor on `cond['run']`,
nor on the event of `u`.
-/
namespace MLPE.Eng
open MLPE

def NoneBlocked (s : St) (w : Wait) : Prop := ∀ tk ∈ s.tasks, tk.st ≠ .blocked w

theorem wakeSet_blocked {ks : List Key} {evs : List Node} {tk : Task} {w : Wait} (h : (wakeSet ks evs tk).st = .blocked w) :
    (∀ k ∈ ks, w ≠ .cond k) ∧ ∀ n ∈ evs, w ≠ .event n := by
  rcases wakeSet_spec ks evs tk with ⟨e, hno⟩ | ⟨e, _⟩ <;> rw [e] at h
  · exact hno w h
  · cases h

theorem woken_noneBlocked (s : St) (ks : List Key) (evs : List Node) {w : Wait}
    (h : (∃ k ∈ ks, w = .cond k) ∨ ∃ n ∈ evs, w = .event n) : NoneBlocked (s.woken ks evs) w := by
  intro tk htk hb
  obtain ⟨tk0, -, rfl⟩ := List.mem_map.mp htk
  rcases h with ⟨k, hk, e⟩ | ⟨n, hn, e⟩
  · exact (wakeSet_blocked hb).1 k hk e
  · exact (wakeSet_blocked hb).2 n hn e

theorem woken_keeps {s : St} (ks : List Key) (evs : List Node) {w : Wait} (h : NoneBlocked s w) :
    NoneBlocked (s.woken ks evs) w := by
  intro tk htk hb
  obtain ⟨tk0, h0, rfl⟩ := List.mem_map.mp htk
  rcases wakeSet_cases ks evs tk0 with e | ⟨-, e⟩ <;> rw [e] at hb
  · exact h tk0 h0 hb
  · cases hb

theorem setEvent_keeps {s : St} (n : Node) {w : Wait} (h : NoneBlocked s w) : NoneBlocked (setEvent s n) w :=
  setEvent_eq s n ▸ woken_keeps _ _ h

theorem notify_noneBlocked (s : St) (k : Key) : NoneBlocked (notify s k) (.cond k) :=
  notify_eq s k ▸ woken_noneBlocked s _ _ (.inl ⟨k, List.mem_singleton.mpr rfl, rfl⟩)

theorem notifyAll_noneBlocked (ks : List Key) (s : St) (k : Key) (h : k ∈ ks) : NoneBlocked (notifyAll s ks) (.cond k) :=
  notifyAll_eq ks s ▸ woken_noneBlocked s _ _ (.inl ⟨k, h, rfl⟩)

/-- **the `finally` of `_run_node` wakes everybody it should**: the event waiters of the node, `run()`, every task
waiting on the condition of a node in `__get_descendants(u)`, and the tasks waiting on `u` itself (whichever DAG ran
it) -/
theorem nodeFinally_wakes (P : Program) (s : St) (d : DagRef) (u : Node) :
    NoneBlocked (nodeFinally P s d u true) (.event u) ∧ NoneBlocked (nodeFinally P s d u true) (.cond .run) ∧
    (∀ m ∈ P.g.desc1 u, NoneBlocked (nodeFinally P s d u true) (.cond (.node m))) ∧
    NoneBlocked (nodeFinally P s d u true) (.cond (.node u)) := by
  rw [nodeFinally_eq]
  refine ⟨woken_noneBlocked _ _ _ (.inr ⟨u, ?_, rfl⟩), woken_noneBlocked _ _ _ (.inl ⟨_, ?_, rfl⟩),
    fun m hm => woken_noneBlocked _ _ _ (.inl ⟨_, ?_, rfl⟩), woken_noneBlocked _ _ _ (.inl ⟨_, ?_, rfl⟩)⟩ <;>
    simp [finallyKeys, *]

/-! ### who is in `__get_descendants` -/

theorem mem_desc1Fuel_succ (g : Graph) (f : Nat) (u m : Node) (h : m ∈ g.succs u) : m ∈ g.desc1Fuel (f + 1) u := by
  simp only [Graph.desc1Fuel, List.mem_append]
  exact Or.inl h

theorem mem_desc1_of_edge (g : Graph) (e : Edge) (he : e ∈ g.edges) (hn : g.nodes ≠ []) : e.v ∈ g.desc1 e.u := by
  unfold Graph.desc1
  cases hl : g.nodes.length with
  | zero => exact absurd (List.length_eq_zero_iff.mp hl) hn
  | succ f =>
    apply mem_desc1Fuel_succ
    simp only [Graph.succs, List.mem_map, List.mem_filter, beq_iff_eq]
    exact ⟨e, ⟨he, rfl⟩, rfl⟩

/-- a successor of a switch node that `u` feeds (as decision node or as case) is a descendant of `u`: the notification
passes through switch nodes -/
theorem mem_desc1_through_switch (g : Graph) (e1 e2 : Edge) (h1 : e1 ∈ g.edges) (h2 : e2 ∈ g.edges) (hv : e1.v = e2.u)
    (hS : g.isSwitch e1.v = true) (hn : 2 ≤ g.nodes.length) : e2.v ∈ g.desc1 e1.u := by
  unfold Graph.desc1
  obtain ⟨f, hf⟩ : ∃ f, g.nodes.length = f + 2 := ⟨g.nodes.length - 2, by omega⟩
  rw [hf]
  have hunf : g.desc1Fuel (f + 2) e1.u =
      g.succs e1.u ++ ((g.succs e1.u).filter g.isSwitch).flatMap (g.desc1Fuel (f + 1)) := rfl
  rw [hunf]
  simp only [List.mem_append, List.mem_flatMap, List.mem_filter]
  right
  refine ⟨e1.v, ⟨?_, hS⟩, ?_⟩
  · simp only [Graph.succs, List.mem_map, List.mem_filter, beq_iff_eq]
    exact ⟨e1, ⟨h1, rfl⟩, rfl⟩
  · apply mem_desc1Fuel_succ
    simp only [Graph.succs, List.mem_map, List.mem_filter, beq_iff_eq]
    exact ⟨e2, ⟨h2, hv.symm⟩, rfl⟩

/-! ### the closing primitives change only the stepping task's entry -/

theorem retTo_others (c : Ctx) (s : St) (obs : List Obs) (below : List Frame) (v : Val) (i : Nat) (hi : i ≠ c.t) :
    (retTo c s obs below v).1.tasks[i]? = s.tasks[i]? := by
  rw [retTo_finish]; exact finish_others _ _ _ _ _ hi

theorem others_not_blocked {s s' : St} {t : Nat} (hsame : ∀ i, i ≠ t → s'.tasks[i]? = s.tasks[i]?) {w : Wait}
    (h : NoneBlocked s w) (i : Nat) (hi : i ≠ t) (tk : Task) (htk : s'.tasks[i]? = some tk) : tk.st ≠ .blocked w := by
  rw [hsame i hi] at htk
  exact h tk (List.mem_of_getElem? htk)

end MLPE.Eng
