import MLPE.Proofs.LiveStep
import MLPE.Proofs.Acts

/-!
# The sections of `_run_dag` and `_run_switch` preserve the liveness invariant

`LCtx` is a launch loop in progress (in the main task, or inside `_run_switch` in the sub-DAG of the selected case); the loop is
followed by induction on the nodes still to be launched (`struct_dagLaunch`).  The one section that records a decision
(`struct_setSw`) closes by `Struct.close_ext` itself; the others store nothing (`Struct.close_same`).  `struct_dagSection`
covers the three sections of `_run_dag` by the task's top frame; `valid_of_dagInit`: a section that reports no `badOracle`
used an admissible launch order (the one use the Live files make of `Proofs/Acts.lean`: a section only appends to the
observations it was given).
-/
namespace MLPE.Eng
open MLPE

variable {P : Program} {depth : Node → Nat}

/-! ### sections of a launch loop (`_run_dag`), in the main task or inside `_run_switch` -/

/-- who runs the launch loop: the main `_run_dag` task, or a `_run_switch` task inside the sub-DAG of its case -/
inductive LRole (P : Program) (depth : Node → Nat) (s : St) (tkt : Task) (d : DagRef) : List Frame → Prop
  | main : tkt.name = .run → d.dest = some P.g.output → P.g.output ∈ d.nodes → LRole P depth s tkt d []
  | sw (d' : DagRef) (S : Node) : tkt.name = .node S → P.g.isSwitch S = true → SubOK' P depth s d S →
      LRole P depth s tkt d [.switchRet d' S]

/-- the situation during a section of a launching task `t`: the state `s1` is the state `s` at the beginning of the
section plus the freshly created tasks -/
structure LBase (P : Program) (depth : Node → Nat) (s s1 : St) (t : Nat) (tkt : Task) (d : DagRef) (below : List Frame) :
    Prop where
  hs     : Struct P depth s
  htkt   : s.tasks[t]? = some tkt
  hrt    : ∃ rv, tkt.st = .runnable rv
  role   : LRole P depth s tkt d below
  dag    : DagOK P d
  notNode : ∀ d0 n f pc, tkt.frames ≠ [.node d0 n f pc]
  /-- the old frames are those of the `_run_switch` task of `S`: the only switch this task can own is `S` -/
  oldSw  : ∀ d' S, below = [.switchRet d' S] → (∃ d0, tkt.frames = [.switchStart d0 S]) ∨
      (∃ d0 sub rest0, tkt.frames = [.dagLaunch sub rest0, .switchRet d0 S]) ∨
      (∃ d0 sub, tkt.frames = [.dagWaitDest sub, .switchRet d0 S]) ∨
      (∃ d0 sub, tkt.frames = [.dagInit sub, .switchRet d0 S])
  oldMain : below = [] → (∃ d0, tkt.frames = [.dagInit d0]) ∨ (∃ d0 r0, tkt.frames = [.dagLaunch d0 r0]) ∨
      (∃ d0, tkt.frames = [.dagWaitDest d0])
  e      : Ext t s s1
  res    : s1.res = s.res
  rh     : s1.resHid = s.resHid
  ph     : s1.procHid = s.procHid
  sw     : s1.sw = s.sw
  ev     : s1.evSet = s.evSet
  proc   : s1.proc = s.proc
  fresh  : ∀ (i : Nat) (tk : Task), s.tasks.length ≤ i → s1.tasks[i]? = some tk → FreshTask P tk

/-- … in the launch loop, with `rest` still to be launched -/
structure LCtx (P : Program) (depth : Node → Nat) (s s1 : St) (t : Nat) (tkt : Task) (d : DagRef) (below : List Frame)
    (rest : List Node) : Prop extends LBase P depth s s1 t tkt d below where
  passed : ∀ q ∈ d.nodes, q ∉ rest → Launched P s1 q
  sub    : ∀ q ∈ rest, q ∈ d.nodes
  topo   : TopoRest P rest

section
variable {s s1 : St} {t : Nat} {tkt : Task} {d : DagRef} {below : List Frame}

theorem LCtx.nameNe {rest : List Node} (x : LCtx P depth s s1 t tkt d below rest) : tkt.name ≠ .caller := by
  cases x.role with
  | main h => rw [h]; intro h'; cases h'
  | sw d' S h => rw [h]; intro h'; cases h'

theorem LCtx.self1 {rest : List Node} (x : LCtx P depth s s1 t tkt d below rest) : s1.tasks[t]? = some tkt := by
  rw [x.e.self]; exact x.htkt

theorem LCtx.close {rest : List Node} (x : LCtx P depth s s1 t tkt d below rest) (tk' : Task)
    (hnm : tk'.name = tkt.name) (hmc' : tk'.mustCancel = false)
    (hnewf : ∀ d0 n f pc, tk'.frames ≠ [.node d0 n f pc]) (hnd : ∀ y, tk'.st ≠ .done (.exc y))
    (hself : TaskOK P depth (s1.setTask t tk') tk')
    (hown : ∀ d' S, below = [.switchRet d' S] → SwOwner (s1.setTask t tk') S ∨
      ∀ m, S ∈ basePreds P m → ∀ d0, d0.isRec = false → ready P s d0 m = false) :
    Struct P depth (s1.setTask t tk') := by
  refine Struct.close_same x.hs x.htkt hnm x.hrt (fun h => absurd h (x.hs.ne_zero x.htkt x.nameNe)) x.e x.res x.rh x.ph
    x.sw x.ev x.proc hmc' (fun d0 n f pc h => absurd h (x.notNode d0 n f pc)) (fun d0 n f pc h => absurd h (hnewf d0 n f pc))
    (Or.inl hnd) hself ?_ x.fresh
  -- if this task owns a switch, it is the `_run_switch` task of the role
  intro S hfr
  cases x.role with
  | main hn hdst hout =>
    rcases x.oldMain rfl with ⟨d0, h⟩ | ⟨d0, r0, h⟩ | ⟨d0, h⟩ <;> rw [h] at hfr <;> cases hfr
  | sw d' S' hn hS' hsub =>
    have hSS : S = S' := by
      rcases x.oldSw d' S' rfl with ⟨d0, h⟩ | ⟨d0, sub0, r0, h⟩ | ⟨d0, sub0, h⟩ | ⟨d0, sub0, h⟩ <;> rw [h] at hfr <;>
        cases hfr <;> rfl
    subst hSS
    exact (hown d' S rfl).imp id (fun h m hm => Or.inl (h m hm))

theorem LCtx.launched' {rest : List Node} (x : LCtx P depth s s1 t tkt d below rest) (tk' : Task)
    (hnm : tk'.name = tkt.name) {q : Node} (h : Launched P s1 q) : Launched P (s1.setTask t tk') q :=
  Launched.close (Ext.refl t s1) x.self1 hnm h (fun d0 hf => absurd hf (x.notNode d0 q false .start))

theorem LCtx.stays {rest : List Node} (x : LCtx P depth s s1 t tkt d below rest) {tk' : Task} (hnm : tk'.name = tkt.name)
    {F : Frame} (hfr : tk'.frames = F :: below) (hdf : DagFrame P (s1.setTask t tk') F d)
    (hlst : LaunchSt P (s1.setTask t tk') tk' F) :
    (∀ d0 n f pc, tk'.frames ≠ [.node d0 n f pc]) ∧ TaskOK P depth (s1.setTask t tk') tk' := by
  cases x.role with
  | main hn hdst hout =>
    refine ⟨fun d0 n f pc hf => ?_, .main _ _ d (hnm.trans hn) hfr hdf x.dag hdst hout hlst⟩
    rw [hfr] at hf; cases hf; cases hdf
  | sw d' S hn hS hsub =>
    refine ⟨fun d0 n f pc hf => ?_, .swIn _ _ d d' S (hnm.trans hn) hS hfr hdf (hsub.transport (fun S' lc h => ?_)) hlst⟩
    · rw [hfr] at hf; cases hf
    · rw [show (St.setTask s1 t tk').sw = s1.sw from rfl, x.sw]; exact h

theorem struct_launch_block {n : Node} {rest : List Node} (x : LCtx P depth s s1 t tkt d below (n :: rest))
    (hnr : ready P s1 d n = false) (tk' : Task) (hnm : tk'.name = tkt.name)
    (hmc' : tk'.mustCancel = false) (hfr : tk'.frames = .dagLaunch d (n :: rest) :: below)
    (hst : tk'.st = .blocked (.cond (.node n))) : Struct P depth (s1.setTask t tk') := by
  have hdf : DagFrame P (s1.setTask t tk') (.dagLaunch d (n :: rest)) d :=
    .launch d n rest (fun q hq hn => x.launched' _ hnm (x.passed q hq hn)) x.sub x.topo
  have hlst : LaunchSt P (s1.setTask t tk') tk' (.dagLaunch d (n :: rest)) := by
    refine ⟨x.dag.notRec, Or.inr ⟨hst, ?_⟩⟩
    intro (h : ready P s1 d n = true)
    rw [hnr] at h; cases h
  obtain ⟨hnn, hself⟩ := x.stays hnm hfr hdf hlst
  refine x.close tk' hnm hmc' hnn (fun y hy => by rw [hst] at hy; cases hy) hself ?_
  · intro d' S hb
    left
    refine ⟨t, tk', x.e.closed_self x.htkt, ?_,
      Or.inr (Or.inr (Or.inr ⟨d', d, n :: rest, by rw [hfr, hb]⟩))⟩
    intro r hr
    rw [hst] at hr; cases hr

theorem struct_launch_wait (hp : LiveP P depth) (x : LCtx P depth s s1 t tkt d below []) {dn : Node}
    (hdd : d.dest = some dn) (hne : s1.exists dn = false) (tk' : Task)
    (hnm : tk'.name = tkt.name) (hmc' : tk'.mustCancel = false) (hfr : tk'.frames = .dagWaitDest d :: below)
    (hst : tk'.st = .blocked (.cond d.destKey)) : Struct P depth (s1.setTask t tk') := by
  have hdf : DagFrame P (s1.setTask t tk') (.dagWaitDest d) d :=
    .wait d (fun q hq => x.launched' _ hnm (x.passed q hq (by simp)))
  have hlst : LaunchSt P (s1.setTask t tk') tk' (.dagWaitDest d) := Or.inr hst
  obtain ⟨hnn, hself⟩ := x.stays hnm hfr hdf hlst
  refine x.close tk' hnm hmc' hnn (fun y hy => by rw [hst] at hy; cases hy) hself ?_
  · intro d' S hb
    -- the selected case has no result: no consumer of `S` is ready
    right
    intro m hm d0 hd0
    cases x.role with
    | main hn hdst hout => cases hb
    | sw d'' S' hn hS hsub =>
      simp only [List.cons.injEq, Frame.switchRet.injEq, and_true] at hb
      obtain ⟨_, hSS⟩ := hb
      subst hSS
      obtain ⟨l, c, hsw, hdc, _, _⟩ := hsub.sel
      obtain rfl : dn = c := Option.some.inj (hdd.symm.trans hdc)
      have hnc : s.exists dn = false := by simpa [St.exists, x.res, x.rh] using hne
      rw [ready_eq s (hp.sw.noHead m) hd0, List.all_eq_false]
      exact ⟨S', hm, by simp [resolveSw, hS, hsw, hnc]⟩

theorem LRole.dest (r : LRole P depth s tkt d below) : ∃ dn, d.dest = some dn ∧ dn ∈ d.nodes := by
  cases r with
  | main _ hdst hout => exact ⟨_, hdst, hout⟩
  | sw d' S _ _ hsub => obtain ⟨l, c, _, hdc, hc, _⟩ := hsub.sel; exact ⟨c, hdc, hc⟩

/-- **`_run_dag` returns**, its destination being processed (it has a result, or nothing was left to launch): the main
task ends; a `_run_switch` task is about to notify the consumers of its switch -/
theorem struct_launch_ret (hp : LiveP P depth) (c : Ctx) {rest : List Node} (x : LCtx P depth s s1 c.t tkt d below rest)
    {dn : Node} (hdd : d.dest = some dn) (hdone : s1.proc dn = true) (obs : List Obs) (v : Val) :
    Struct P depth (retTo c s1 obs below v).1 := by
  have hself := x.self1
  have hmc := x.hs.noCancel x.htkt
  cases hr : x.role with
  | main hn hdst hout =>
    obtain rfl : dn = P.g.output := Option.some.inj (hdd.symm.trans hdst)
    rw [retTo_finish, if_pos rfl, finish_done hself]
    refine x.close _ rfl rfl (fun _ _ _ _ hf => by cases hf) (fun y hy => by cases hy) ?_ (fun d' S hb => by cases hb)
    exact .mainDone _ hn rfl rfl (x.launched' _ (by rfl) (.of_proc hp.outPlain hdone))
  | sw d' S hn hS hsub =>
    rw [retTo_finish, if_neg (List.cons_ne_nil _ _), finish_runnable hself]
    obtain ⟨l, cn, hsw, hdc, _, _⟩ := hsub.sel
    obtain rfl : dn = cn := Option.some.inj (hdd.symm.trans hdc)
    refine x.close _ rfl hmc (fun _ _ _ _ hf => by cases hf) (fun y hy => by cases hy) ?_ ?_
    · refine .swRet _ d' S hn hS rfl ⟨_, rfl⟩ ⟨l, dn, ?_, ?_⟩
      · rw [show (St.setTask s1 c.t _).sw = s1.sw from rfl, x.sw]; exact hsw
      · exact x.launched' _ (by rfl) (.of_proc (x.hs.data.swEdge S l dn hsw).1 hdone)
    · intro d'' S' hb
      cases hb
      refine Or.inl ⟨c.t, _, x.e.closed_self x.htkt, ?_, Or.inr (Or.inl ⟨d', rfl⟩)⟩
      intro r hr; cases hr

theorem TopoRest.tail {n : Node} {rest : List Node} (h : TopoRest P (n :: rest)) : TopoRest P rest := by
  intro pre m post hr u hu
  exact h (n :: pre) m post (by rw [hr]; rfl) u hu

theorem LCtx.step (hp : LiveP P depth) {n : Node} {rest : List Node} (x : LCtx P depth s s1 t tkt d below (n :: rest)) :
    LCtx P depth s (Eng.spawn s1 [launchFrame P d n] (.node n)).1 t tkt d below rest := by
  have e2 : Ext t s1 (Eng.spawn s1 [launchFrame P d n] (.node n)).1 := Ext.spawn s1 _ _ (getElem?_lt x.self1)
  have hnew := getElem?_spawn_new s1 [launchFrame P d n] (.node n)
  -- without one-of, the task starts `_run_switch` or `_run_node`
  have hlf := launchFrame_of_not_head (hp.sw.noHead n) d
  refine { x with
    e := x.e.trans e2, fresh := ?_, passed := ?_, sub := fun q hq => x.sub q (by simp [hq]), topo := x.topo.tail }
  · intro i tk hi h
    rcases getElem?_spawn h with h | rfl
    · exact x.fresh i tk hi h
    · refine ⟨rfl, rfl, ?_⟩
      rw [hlf]
      split
      · next hS => exact Or.inr ⟨d, n, rfl, rfl, hS, x.dag.notOne⟩
      · next hS => exact Or.inl ⟨d, n, rfl, rfl, by simpa using hS⟩
  · intro q hq hnr
    by_cases hqn : q = n
    · subst hqn
      unfold Launched
      split
      · exact ⟨s1.tasks.length, _, hnew, rfl⟩
      · next hS => exact Or.inr ⟨s1.tasks.length, _, d, hnew, by rw [hlf, if_neg hS], rfl⟩
    · exact (x.passed q hq (by simp [hqn, hnr])).ext e2

end

theorem struct_dagLaunch {P : Program} {depth : Node → Nat} (hp : LiveP P depth) (c : Ctx) (hcP : c.P = P) {s : St}
    {tkt : Task} {d : DagRef} {below : List Frame} (hmc : tkt.mustCancel = false) :
    ∀ (rest : List Node) (s1 : St) (obs : List Obs), LCtx P depth s s1 c.t tkt d below rest →
      Struct P depth (dagLaunch c d below s1 obs rest).1 := by
  intro rest
  induction rest with
  | nil =>
    intro s1 obs x
    obtain ⟨dn, hdd, _⟩ := x.role.dest
    simp only [dagLaunch, dagWaitDest, hdd]
    split
    · next hex =>
      -- the destination has a result: return
      exact struct_launch_ret hp c x hdd (x.proc ▸ x.hs.data.c6 _ (x.res ▸ isSome_res_of_exists hex)) _ _
    · next hex =>
      rw [block_finish, finish_blocked x.self1]
      exact struct_launch_wait hp x hdd (by simpa using hex) _ rfl hmc rfl (by simp [DagRef.destKey, hdd])
  | cons n rest ih =>
    intro s1 obs x
    simp only [dagLaunch, x.dag.notOne, Bool.false_and, Bool.false_eq_true, if_false]
    split
    · next hr =>
      rw [hcP]
      exact ih _ _ (x.step hp)
    · next hr =>
      rw [block_finish, finish_blocked x.self1]
      refine struct_launch_block x ?_ _ rfl hmc rfl rfl
      rw [← hcP]; simpa using hr

/-! ### `_run_switch` returns -/

theorem struct_switch_ret {P : Program} {depth : Node → Nat} (hp : LiveP P depth) {s : St} (hs : Struct P depth s) {t : Nat}
    {tkt : Task} (htkt : s.tasks[t]? = some tkt) {d : DagRef} {S : Node} (hnm : tkt.name = .node S)
    (hS : P.g.isSwitch S = true) (hf0 : tkt.frames = [.switchRet d S]) (hrt : ∃ rv, tkt.st = .runnable rv)
    (hok : ∃ l c, s.sw S = some (l, c) ∧ Launched P s c) (tk' : Task) (hnm' : tk'.name = tkt.name)
    (hmc' : tk'.mustCancel = false) (hfr : tk'.frames = []) (hst : tk'.st = .done .ok) :
    Struct P depth ((notifyAll s ((P.g.desc1 S).map Key.node)).setTask t tk') := by
  have hnc := ne_caller hnm
  have hw := notifyAll_noneBlocked ((P.g.desc1 S).map Key.node) s
  rw [notifyAll_eq] at hw ⊢
  have e : Ext t s (s.woken ((P.g.desc1 S).map Key.node) []) :=
    Ext.woken _ _ (runnable_at htkt hrt)
  refine Struct.close_same hs htkt hnm' hrt (fun h => absurd h (hs.ne_zero htkt hnc)) e rfl rfl rfl rfl rfl rfl hmc' ?_ ?_ ?_
    ?_ ?_ (no_new_task (by simp [St.woken]))
  · intro d' n f pc h; rw [hf0] at h; cases h
  · intro d' n f pc h; rw [hfr] at h; cases h
  · left; intro x hx; rw [hst] at hx; cases hx
  · obtain ⟨l, c, h1, h2'⟩ := hok
    refine .swDone tk' S .ok (hnm'.trans hnm) hS hfr hst (by intro h; cases h) (fun _ => ⟨l, c, h1, ?_⟩)
    refine h2'.close e htkt hnm' ?_
    intro d' hf; rw [hf0] at hf; cases hf
  · -- this task owned `S` only: every consumer of `S` has just been notified
    intro S' hfr'
    rw [hf0] at hfr'; cases hfr'
    exact Or.inr (fun m hm => Or.inr (hw _ (List.mem_map.mpr ⟨m, mem_desc1_of_basePreds hp.sw hm, rfl⟩)))

/-! ### entering `_run_dag` -/

theorem basePreds_nocase (hp : LiveP P depth) {m u : Node} (h : u ∈ basePreds P m) :
    ∃ e ∈ P.g.edges, e.u = u ∧ e.v = m ∧ e.case = none := by
  obtain ⟨e, he, hu, hv, hs⟩ := mem_basePreds_edge h
  refine ⟨e, he, hu, hv, ?_⟩
  cases hS : P.g.isSwitch m with
  | true => exact hp.decNoCase e he (hs hS)
  | false => exact hp.caseSw e he (by rw [hv]; exact hS)

/-- an admissible answer of `_get_node_order`: everything else in the DAG is processed, and dependencies come first -/
theorem LBase.ofValid (hp : LiveP P depth) {s s1 : St} {t : Nat} {tkt : Task}
    {d : DagRef} {below : List Frame} (x : LBase P depth s s1 t tkt d below) {ord : List Node}
    (hv : validOrder P s1 d ord = true) :
    LCtx P depth s s1 t tkt d below ord ∧ ∀ q ∈ d.nodes, q ∉ ord → s1.proc q = true := by
  obtain ⟨hnd, hmem, hedges⟩ := validOrder_spec hv
  have hproc : ∀ q ∈ d.nodes, q ∉ ord → s1.proc q = true := by
    intro q hq hno
    cases hpe : s1.procExists q with
    | false => exact absurd ((hmem q).mpr (List.mem_filter.mpr ⟨hq, by simp [hpe]⟩)) hno
    | true => simp only [St.procExists, Bool.and_eq_true] at hpe; exact hpe.1
  refine ⟨{ toLBase := x, passed := ?_, sub := validOrder_sub hv, topo := ?_ }, hproc⟩
  · intro q hq hno
    have h1 := hproc q hq hno
    exact .of_proc (x.hs.data.procPlain q (x.proc ▸ h1)) h1
  · -- a dependency `u` of `m` comes before `m` in the duplicate-free order, so not after it
    intro pre m post hr u hu hmem'
    subst hr
    obtain ⟨e, he, rfl, rfl, hcase⟩ := basePreds_nocase hp hu
    have hlt := hedges e he (List.mem_append_right _ hmem') (by simp) hcase (hp.noCands e he)
    exact (List.nodup_append.mp hnd).2.2 e.u (mem_of_posOf_lt hnd hlt) e.u hmem' rfl

theorem struct_dagInit {P : Program} {depth : Node → Nat} (hp : LiveP P depth) (c : Ctx) (hcP : c.P = P) {s s1 : St}
    {tkt : Task} {d : DagRef} {below : List Frame} (hmc : tkt.mustCancel = false)
    (x : LBase P depth s s1 c.t tkt d below) (obs : List Obs) (hv : validOrder c.P s1 d c.ord = true) :
    Struct P depth (dagInit c s1 obs d below).1 := by
  have hv' : validOrder P s1 d c.ord = true := by rw [← hcP]; exact hv
  obtain ⟨y, hproc⟩ := x.ofValid hp hv'
  unfold dagInit
  simp only [refresh_of_nil (x.e.stale.trans x.hs.data.stale), hv, noteOrder_true]
  cases hco : c.ord with
  | nil =>
    simp only []
    rw [hco] at y hproc
    obtain ⟨dn, hdd, hmem⟩ := x.role.dest
    exact struct_launch_ret hp c y hdd (hproc dn hmem (by simp)) _ _
  | cons n rest =>
    simp only []
    rw [hco] at y
    exact struct_dagLaunch hp c hcP hmc _ _ _ y

/-! ### entering `_run_switch` -/

theorem ready_false_of_unset (hsw : SwP P) {s : St} (hd : LData P s) {S m : Node} (hm : S ∈ basePreds P m)
    (hS : P.g.isSwitch S = true) (hno : s.sw S = none) (d : DagRef) (hrec : d.isRec = false) : ready P s d m = false := by
  rw [ready_eq s (hsw.noHead m) hrec, List.all_eq_false]
  refine ⟨S, hm, ?_⟩
  have : s.res S = none := by
    cases hr : s.res S with
    | none => rfl
    | some v =>
      have := hd.procPlain S (hd.c6 S (by rw [hr]; rfl))
      rw [hS] at this; cases this
  simp [resolveSw, hS, hno, St.exists, this]

theorem struct_switch_nocase (hp : LiveP P depth) {s : St} (hs : Struct P depth s)
    {t : Nat} {tkt : Task} (htkt : s.tasks[t]? = some tkt) {d : DagRef} {S : Node} (hnm : tkt.name = .node S)
    (hS : P.g.isSwitch S = true) (hf0 : tkt.frames = [.switchStart d S]) (hrt : ∃ rv, tkt.st = .runnable rv)
    (hnone : switchSelect P s S = none) (x : Exc) (tk' : Task) (hnm' : tk'.name = tkt.name)
    (hmc' : tk'.mustCancel = false) (hfr : tk'.frames = []) (hst : tk'.st = .done (.exc x)) :
    Struct P depth ((notify s .run).setTask t tk') := by
  have hnc := ne_caller hnm
  have hw := notify_noneBlocked s .run
  rw [notify_eq] at hw ⊢
  have e : Ext t s (s.woken [.run] []) := Ext.woken _ _ (runnable_at htkt hrt)
  have hnosw : s.sw S = none := by
    cases h : s.sw S with
    | none => rfl
    | some lc => have := hs.data.swSel S lc h; rw [hnone] at this; cases this
  refine Struct.close_same hs htkt hnm' hrt (fun h => absurd h (hs.ne_zero htkt hnc)) e rfl rfl rfl rfl rfl rfl hmc' ?_ ?_
    (Or.inr hw) ?_ ?_ (no_new_task (by simp [St.woken]))
  · intro d' n f pc h; rw [hf0] at h; cases h
  · intro d' n f pc h; rw [hfr] at h; cases h
  · exact .swDone tk' S (.exc x) (hnm'.trans hnm) hS hfr hst (by intro h; cases h) (by intro h; cases h)
  · -- this task owned `S` only, which has no decision: no consumer of `S` is ready
    intro S' hfr'
    rw [hf0] at hfr'; cases hfr'
    exact Or.inr (fun m hm => Or.inl (fun d0 hd0 => ready_false_of_unset hp.sw hs.data hm hS hnosw d0 hd0))

theorem switchSelect_edge {s : St} {S : Node} {l : Label} {cn : Node} (h : switchSelect P s S = some (l, cn)) :
    ∃ e ∈ P.g.edges, e.u = cn ∧ e.v = S ∧ e.case = some l := by
  have := (List.mem_filter.mp (List.mem_of_getLast? (switchSelect_some h).2)).1
  simp only [switchCases, List.mem_filterMap, List.mem_filter, beq_iff_eq] at this
  obtain ⟨e, ⟨he, hv⟩, h2⟩ := this
  split at h2
  · cases h2
  · cases hc : e.case with
    | none => rw [hc] at h2; cases h2
    | some l' => rw [hc] at h2; cases h2; exact ⟨e, he, rfl, hv, hc⟩

theorem ready_setSw_other (hsw : SwP P) (s : St) (S : Node) (lc : Label × Node) (d : DagRef)
    (hrec : d.isRec = false) (m : Node) (hm : S ∉ basePreds P m) : ready P (s.setSw S lc) d m = ready P s d m := by
  unfold ready
  rw [predsFor_eq _ (hsw.noHead m) hrec, predsFor_eq s (hsw.noHead m) hrec]
  have : (basePreds P m).map (resolveSw P (s.setSw S lc)) = (basePreds P m).map (resolveSw P s) := by
    apply List.map_congr_left
    intro p hp
    have hpS : p ≠ S := fun h => hm (h ▸ hp)
    simp only [resolveSw, St.setSw, upd, if_neg hpS]
  rw [this]
  rfl

/-- `_run_switch` records its decision (the first half of the section; the task is still about to build its sub-DAG) -/
theorem struct_setSw {P : Program} {depth : Node → Nat} (hp : LiveP P depth) {s : St} (hs : Struct P depth s)
    {t : Nat} {tkt : Task} (htkt : s.tasks[t]? = some tkt) {d : DagRef} {S : Node} (hnm : tkt.name = .node S)
    (hS : P.g.isSwitch S = true) (hf0 : tkt.frames = [.switchStart d S]) (hno : d.isOneof = false)
    (hst : tkt.st = .runnable .go) {l : Label} {cn : Node} (hsel : switchSelect P s S = some (l, cn)) : Struct P depth (s.setSw S (l, cn)) := by
  have hd := hs.data
  have hnc := ne_caller hnm
  have hold : ∀ lc', s.sw S = some lc' → lc' = (l, cn) := by
    intro lc' h
    have := hd.swSel S lc' h
    rw [hsel] at this; cases this; rfl
  have e : Ext t s (s.setSw S (l, cn)) := Ext.setSw s S (l, cn) hold
  have hnd : tkt.nonDone := by intro r hr; rw [hst] at hr; cases hr
  rw [← setTask_self (show (s.setSw S (l, cn)).tasks[t]? = some tkt from htkt)]
  obtain ⟨e0, he0, heu, hev, hcase⟩ := switchSelect_edge hsel
  refine Struct.close_ext hs ⟨tkt, htkt, rfl⟩ e ?_ (.swStart tkt d S hnm hS hf0 hno hst) ?_ ?_ ?_
    (fun _ _ _ _ _ _ _ _ _ _ hn => hn) (fun h0 => absurd h0 (hs.ne_zero htkt hnc)) (no_new_task (by rfl))
  · -- the storage part: only the decision of `S` is new
    refine hd.grow e htkt ⟨_, hst⟩ (hs.noCancel htkt) (fun _ => False) rfl (fun n => (hd.noHid n).2)
      (fun _ _ => ⟨rfl, rfl, rfl⟩) (fun _ h => h.elim) ?_ ?_ ?_ (no_new_task (by rfl))
    · intro d' n f pc hf; rw [hf0] at hf; cases hf
    · intro S' l' c' h
      simp only [St.setSw, upd] at h
      split at h
      · next hSS =>
        cases h
        subst hSS
        exact Or.inr ⟨⟨hp.casePlain e0 he0 (by rw [hcase]; rfl) ▸ (by rw [heu]), e0, he0, heu, hev⟩, hsel⟩
      · exact Or.inl h
    · intro d1 q1 f1 pc1 hfr; rw [hf0] at hfr; cases hfr
  · exact fun q hl => hl.close e htkt rfl (fun d' hf' => by rw [hf0] at hf'; cases hf')
  · intro he0' hr0
    refine Or.inl ⟨taskErrors_close_nil e he0' ?_ (no_new_task (by rfl)), hr0⟩
    intro x hx; rw [hst] at hx; cases hx
  · intro i tki d' m hit hi hrec hb hrd hold'
    by_cases hrd' : ready P s d' m = true
    · obtain ⟨S', hS', hSs, ho⟩ := hold' hrd'
      -- this task stays the owner of its switch
      exact ⟨S', hS', hSs, ho.close e htkt (fun hfr => ⟨t, tkt, e.closed_self htkt, hnd, ownerOf_eq_some.mp hfr⟩)⟩
    · -- `m` has become ready through the decision: it consumes `S`, whose task is this one
      have hm : S ∈ basePreds P m := by
        apply Classical.byContradiction
        intro hn
        rw [ready_setSw_other hp.sw s S (l, cn) d' hrec m hn] at hrd
        exact hrd' hrd
      exact ⟨S, hm, hS, t, tkt, e.closed_self htkt, hnd, Or.inl ⟨d, hf0⟩⟩

/-! ### the launch-order oracle; `_run_switch` from its start into the sub-DAG -/

theorem valid_of_dagInit (c : Ctx) (s : St) (obs : List Obs) (d : DagRef) (below : List Frame) (hst : s.stale = [])
    (h : Obs.badOracle ∉ (dagInit c s obs d below).2) : validOrder c.P s d c.ord = true := by
  cases hv : validOrder c.P s d c.ord with
  | true => rfl
  | false =>
    refine absurd ?_ h
    unfold dagInit
    simp only [refresh_of_nil hst, hv, Bool.false_eq_true, if_false]
    -- the report has been made, and what follows only appends to the observations
    have keep : ∀ {s' : St} {obs' : List Obs} {out : Out}, ERuns c ⟨s', obs' ++ [.badOracle], below⟩ out →
        .badOracle ∈ out.2 := by
      intro s' obs' out r
      obtain ⟨r, h⟩ := r.obs_prefix (fun _ _ => Act.obs_prefix)
      rw [h]
      simp
    split
    · exact keep (runs_retTo ..)
    · exact keep (runs_dagLaunch ..)

/-- **`_run_switch` starts**: it records the decision and enters the `_run_dag` of the selected case, or fails because no
case matches the label -/
theorem struct_switchStart (hp : LiveP P depth) (c : Ctx) (hcP : c.P = P) {s : St}
    (hs : Struct P depth s) {tkt : Task} (htkt : s.tasks[c.t]? = some tkt) {d : DagRef} {S : Node}
    (hnm : tkt.name = .node S) (hS : P.g.isSwitch S = true) (hf0 : tkt.frames = [.switchStart d S])
    (hno : d.isOneof = false) (hst : tkt.st = .runnable .go) (obs : List Obs)
    (hv : Obs.badOracle ∉ (switchStart c s obs d S []).2) : Struct P depth (switchStart c s obs d S []).1 := by
  unfold switchStart at hv ⊢
  rw [hcP] at hv ⊢
  cases hsel : switchSelect P s S with
  | none =>
    simp only [hsel, hno, Bool.false_eq_true, if_false] at hv ⊢
    have hself : (notify s .run).tasks[c.t]? = some tkt := by
      rw [(Ext.notify (t := c.t) .run (runnable_at htkt ⟨_, hst⟩)).self]; exact htkt
    rw [raiseOut_nil, endTask_finish, finish_done hself]
    exact struct_switch_nocase hp hs htkt hnm hS hf0 ⟨_, hst⟩ hsel _ _ rfl rfl rfl rfl
  | some lc =>
    obtain ⟨l, cn⟩ := lc
    simp only [hsel, openCand, hno, Bool.false_eq_true, if_false] at hv ⊢
    have hs2 := struct_setSw hp hs htkt hnm hS hf0 hno hst hsel
    obtain ⟨e0, he0, heu, hev, hcase⟩ := switchSelect_edge hsel
    obtain ⟨sub, hsub, hdst, hcn, hdag, hdepth⟩ :=
      hp.dag (s.setSw S (l, cn)) cn d.isNested (Or.inr ⟨e0, he0, heu, by rw [hcase]; rfl⟩)
    simp only [hsub] at hv ⊢
    have x : LBase P depth (s.setSw S (l, cn)) (s.setSw S (l, cn)) c.t tkt sub [.switchRet d S] :=
      { hs := hs2, htkt := htkt, hrt := ⟨_, hst⟩,
        role := .sw d S hnm hS ⟨hdag, l, cn, by simp [St.setSw], hdst, hcn, hdepth⟩,
        dag := hdag,
        notNode := by intro d0 n f pc h; rw [hf0] at h; simp at h,
        oldSw := by
          intro d' S' hb
          simp only [List.cons.injEq, Frame.switchRet.injEq, and_true] at hb
          exact Or.inl ⟨d, by rw [hf0, hb.2]⟩
        oldMain := by intro h; cases h
        e := Ext.refl _ _, res := rfl, rh := rfl, ph := rfl, sw := rfl, ev := rfl, proc := rfl,
        fresh := no_new_task (by rfl) }
    exact struct_dagInit hp c hcP (hs.noCancel htkt) x obs (valid_of_dagInit c _ obs sub _ hs.data.stale hv)

/-! ### the sections of `_run_dag`, from the task's frames -/

theorem lbase_of_dagTask {s : St} (hs : Struct P depth s) {t : Nat} {tkt : Task}
    (htkt : s.tasks[t]? = some tkt) (hrt : ∃ rv, tkt.st = .runnable rv) {F : Frame} {below : List Frame}
    (hf0 : tkt.frames = F :: below) (hF : F.isDag = true) :
    ∃ d, DagFrame P s F d ∧ LBase P depth s s t tkt d below := by
  obtain ⟨d, hdf, hdag, _, hrole⟩ := dagTask_facts (hs.tasks t tkt htkt) hf0 hF
  refine ⟨d, hdf, ?_⟩
  refine { hs := hs, htkt := htkt, hrt := hrt, role := ?_, dag := hdag, notNode := ?_, oldSw := ?_, oldMain := ?_,
           e := Ext.refl _ _, res := rfl, rh := rfl, ph := rfl, sw := rfl, ev := rfl, proc := rfl,
           fresh := no_new_task (by rfl) }
  · rcases hrole with ⟨rfl, hn, hdst, hout⟩ | ⟨d', S, rfl, hS, hn, hsub⟩
    · exact .main hn hdst hout
    · exact .sw d' S hn hS hsub
  · intro d0 n f pc h
    rw [hf0] at h; cases h; cases hF
  · intro d' S hb
    subst hb
    cases hdf with
    | init => exact Or.inr (Or.inr (Or.inr ⟨_, _, hf0⟩))
    | launch _ m r _ _ _ => exact Or.inr (Or.inl ⟨_, _, _, hf0⟩)
    | wait _ _ => exact Or.inr (Or.inr (Or.inl ⟨_, _, hf0⟩))
  · intro hb
    subst hb
    cases hdf with
    | init => exact Or.inl ⟨_, hf0⟩
    | launch _ m r _ _ _ => exact Or.inr (Or.inl ⟨_, _, hf0⟩)
    | wait _ _ => exact Or.inr (Or.inr ⟨_, hf0⟩)

/-- **the sections of `_run_dag`**, in the main task or inside `_run_switch`: it starts (in a task of its own — a
`_run_switch` enters its sub-DAG in the section that records the decision), its launch loop goes on after its condition
has been notified, its final wait is woken -/
theorem struct_dagSection (hp : LiveP P depth) (c : Ctx) (hcP : c.P = P) {s : St}
    (hs : Struct P depth s) {tkt : Task} (htkt : s.tasks[c.t]? = some tkt) (hrt : ∃ rv, tkt.st = .runnable rv)
    {F : Frame} {below : List Frame} (hf0 : tkt.frames = F :: below) (hF : F.isDag = true) {rv : Resume} {out : Out}
    (hsec : Section c s (F :: below) rv out) (hv : Obs.badOracle ∉ out.2) : Struct P depth out.1 := by
  obtain ⟨d, hdf, x⟩ := lbase_of_dagTask hs htkt hrt hf0 hF
  have hmc := hs.noCancel htkt
  cases hdf with
  | init =>
    cases hsec
    exact struct_dagInit hp c hcP hmc x [] (valid_of_dagInit c _ [] d _ hs.data.stale hv)
  | launch _ m r hpass hsub htopo =>
    cases hsec
    exact struct_dagLaunch hp c hcP hmc _ _ _ { toLBase := x, passed := hpass, sub := hsub, topo := htopo }
  | wait _ hall =>
    cases hsec
    have := struct_dagLaunch hp c hcP hmc [] s []
      { toLBase := x, passed := fun q hq _ => hall q hq, sub := (by intro q hq; cases hq),
        topo := (by intro pre m post h; simp at h) }
    simpa only [dagLaunch] using this

set_option linter.unusedVariables false in -- what is assumed of `d` follows from `hs`
theorem struct_main_dagInit {P : Program} {depth : Node → Nat} (hp : LiveP P depth) (c : Ctx) (hcP : c.P = P) {s : St}
    (hs : Struct P depth s) {tkt : Task} (htkt : s.tasks[c.t]? = some tkt) {d : DagRef} (hnm : tkt.name = .run)
    (hf0 : tkt.frames = [.dagInit d]) (hrt : ∃ rv, tkt.st = .runnable rv) (hdag : DagOK P d)
    (hdst : d.dest = some P.g.output) (hout : P.g.output ∈ d.nodes) (obs : List Obs)
    (hv : Obs.badOracle ∉ (dagInit c s obs d []).2) : Struct P depth (dagInit c s obs d []).1 := by
  obtain ⟨d1, hdf, x⟩ := lbase_of_dagTask hs htkt hrt hf0 rfl
  cases hdf with
  | init => exact struct_dagInit hp c hcP (hs.noCancel htkt) x obs (valid_of_dagInit c _ obs d _ hs.data.stale hv)

end MLPE.Eng
