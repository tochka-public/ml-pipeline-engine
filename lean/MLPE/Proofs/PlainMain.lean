import MLPE.Proofs.Plain

/-!
# Plain pipelines: the sections of the launcher (`_run_dag`) and of the caller (`chart.run`, `manager.run`)

`PInvX` is the invariant opened at the launcher while its loop creates node tasks (`launch_plain`, `pinv_step_main`); the caller
starts the run, re-checks its predicate and decides the outcome (`pinv_step_caller`): the step preserves `PInv`, or returns an
outcome explained by `OutcomeOK`, or begins the finishing phase `Fin` (`StepResult`).
-/
namespace MLPE.Eng
open MLPE
variable {val : Node → Option Val}

/-! ### steps of the main task: the launch loop -/

/-- the invariant with the main task's own predicate left open (it is being stepped) -/
structure PInvX (P : Program) (d : DagRef) (val : Node → Option Val) (s : St) (L : List Node) : Prop where
  quiet    : Quiet s
  noRecRes : ∀ p v, s.res p = some v → v.isRecur = false ∧ v.isExc = false
  caller   : ∃ tk, s.tasks[0]? = some tk ∧ CallerOK P s tk
  len      : s.tasks.length = 2 + L.length
  mainTk   : ∃ tk, s.tasks[1]? = some tk ∧ tk.name = .run ∧ tk.mustCancel = false ∧ ∀ e, tk.st ≠ .done (.exc e)
  nodes    : ∀ i (h : i < L.length), ∃ tk, s.tasks[2 + i]? = some tk ∧ NodeTaskOK P d val s L[i] tk
  fresh    : ∀ n, n ∉ L → s.proc n = false ∧ s.res n = none

theorem PInvX.close {P : Program} {d : DagRef} {s : St} {L : List Node} (x : PInvX P d val s L) (tk' : Task)
    (hm : MainOK P d s L tk') : PInv P d val (s.setTask 1 tk') := by
  have cm : Calm s (s.setTask 1 tk') := .setTask 1 tk' (fun _ m => by cases hm <;> simp) (fun e => by cases hm <;> simp)
  have hget : ∀ j : Nat, j ≠ 1 → (s.setTask 1 tk').tasks[j]? = s.tasks[j]? := fun j hj => getElem?_setTask_ne _ _ _ _ hj
  refine ⟨x.quiet.of_tasks _ _, x.noRecRes, ?_, Or.inr ⟨L, by simp [x.len], ?_, ?_, x.fresh⟩⟩
  · obtain ⟨ctk, hc0, hcok⟩ := x.caller
    exact ⟨ctk, by rw [hget 0 (by omega)]; exact hc0, hcok.frame (by simp) cm⟩
  · exact ⟨tk', by rw [getElem?_setTask (by rw [x.len]; omega), if_pos rfl], hm.frame rfl rfl cm⟩
  · intro i hi
    obtain ⟨tk, htk, hok⟩ := x.nodes i hi
    exact ⟨tk, by rw [hget (2 + i) (by omega)]; exact htk, hok.frame' rfl rfl⟩

theorem PInvX.spawnNode {P : Program} {d : DagRef} {s : St} {L : List Node} (x : PInvX P d val s L) (m : Node)
    (hm : m ∉ L) (hrdy : ∀ p ∈ P.g.preds m, (s.res p).isSome = true) :
    PInvX P d val (spawn s [.node d m false .start] (.node m)).1 (L ++ [m]) := by
  have cm := Calm.spawn s [.node d m false .start] (.node m)
  obtain ⟨fp, fr⟩ := x.fresh m hm
  obtain ⟨ctk, hc0, hcok⟩ := x.caller
  obtain ⟨mtk, hm1, hmtk⟩ := x.mainTk
  have hlen : (spawn s [.node d m false .start] (.node m)).1.tasks.length = s.tasks.length + 1 := by simp [spawn]
  refine ⟨x.quiet.of_tasks _ _, x.noRecRes, ⟨ctk, getElem?_spawn_old hc0 _ _, ?_⟩, by rw [hlen, x.len, List.length_append]; rfl,
    ⟨mtk, getElem?_spawn_old hm1 _ _, hmtk⟩, fun i hi => ?_, fun n hn => x.fresh n fun h => hn (List.mem_append_left _ h)⟩
  · -- `manager.run` has started: the caller waits or has been woken
    have h2 : 2 ≤ s.tasks.length := by rw [x.len]; omega
    cases hcok with
    | start mc h1 | cbStart j mc h1 => omega
    | waiting _ h2' h3 => exact .waiting (by omega) (cm.noErr h2') fun hst => h3 (cm.settled _ hst)
    | woken mc _ => exact .woken mc (by omega)
  · by_cases hil : i < L.length
    · obtain ⟨tk, htk, hok⟩ := x.nodes i hil
      rw [List.getElem_append_left hil]
      exact ⟨tk, getElem?_spawn_old htk _ _, hok.frame' rfl rfl⟩
    · obtain rfl : i = L.length := by rw [List.length_append] at hi; simp at hi; omega
      rw [List.getElem_concat_length rfl]
      exact ⟨_, x.len ▸ getElem?_spawn_new s _ _, .fresh fp fr hrdy⟩

theorem PInv.toX {P : Program} {d : DagRef} {s : St} (h : PInv P d val s) {L : List Node} (hrun : Running P d val s L) :
    PInvX P d val s L := by
  obtain ⟨mtk, hm1, hmok⟩ := hrun.main
  refine ⟨h.quiet, h.noRecRes, h.caller, hrun.len, ⟨mtk, hm1, ?_⟩, hrun.nodes, hrun.fresh⟩
  cases hmok <;> exact ⟨rfl, rfl, by intro e; simp⟩

/-- `_run_dag`: the final wait for the destination -/
theorem waitDest_plain {P : Program} {d : DagRef} (hp : PlainP P d) {s : St} {L : List Node} (x : PInvX P d val s L)
    (c : Ctx) (hct : c.t = 1) (obs : List Obs) (ht : TopoOrd P d L) : PInv P d val (dagWaitDest c s obs d []).1 := by
  obtain ⟨mtk, hm1, hname, hmc, _⟩ := x.mainTk
  have hm1' : s.tasks[c.t]? = some mtk := by rw [hct]; exact hm1
  simp only [dagWaitDest, hp.dest]
  split
  · next hex =>
    simp only [retTo]
    rw [endTask_fst hm1', hname, hct]
    exact x.close _ (.done ht (isSome_res_of_exists hex))
  · next hex =>
    rw [block_fst hm1', hmc, hname, hct]
    exact x.close _ (.waitDest ht (x.quiet.not_settled hex))

/-- `_run_dag`: the launch loop, from any point of the order -/
theorem launch_plain {d : DagRef} (c : Ctx) (hp : PlainP c.P d) (hct : c.t = 1) :
    ∀ (rest : List Node) (s : St) (L : List Node) (obs : List Obs), PInvX c.P d val s L → TopoOrd c.P d (L ++ rest) →
      PInv c.P d val (dagLaunch c d [] s obs rest).1 := by
  intro rest
  induction rest with
  | nil =>
    intro s L obs x ht
    simp only [dagLaunch]
    exact waitDest_plain hp x c hct obs (by simpa using ht)
  | cons m rest ih =>
    intro s L obs x ht
    obtain ⟨mtk, hm1, hname, hmc, _⟩ := x.mainTk
    have hm1' : s.tasks[c.t]? = some mtk := by rw [hct]; exact hm1
    simp only [dagLaunch, ready_plain hp x.quiet (fun p v h => (x.noRecRes p v h).1) m, hp.notOneof, Bool.false_and, Bool.false_eq_true, if_false]
    split
    · next hrd =>
      have hmL : m ∉ L := not_mem_of_nodup_append_cons ht.nodup
      simp only [launchFrame_of_not_head (hp.noHead m), hp.noSwitch m, Bool.false_eq_true, if_false]
      exact ih _ (L ++ [m]) _ (x.spawnNode m hmL (List.all_eq_true.mp hrd)) (by simpa using ht)
    · next hnr =>
      rw [block_fst hm1', hmc, hname, hct]
      exact x.close _ (.waitNode m rest ht (not_readyA_of_not_readyP hnr))

theorem topoOrd_of_validOrder {P : Program} {d : DagRef} (hp : PlainP P d) {s : St}
    (hproc : ∀ n, s.proc n = false) (ord : List Node) (h : validOrder P s d ord = true) : TopoOrd P d ord := by
  have hex : expectedOrder P s d = d.nodes := by
    unfold expectedOrder
    simp [hp.notRec, St.procExists, hproc]
  obtain ⟨hnd, hsame, hedge⟩ := validOrder_spec h
  rw [hex] at hsame
  refine ⟨hnd, hsame, fun n hn p hpn => ?_⟩
  have hpo : p ∈ ord := (hsame p).mpr (hp.predsIn n ((hsame n).mp hn) p hpn)
  obtain ⟨e, he, rfl, rfl⟩ := Graph.mem_preds.mp hpn
  exact hedge e he hpo hn (hp.noCase e he) (hp.noCand e he)

theorem pinv_step_main {d : DagRef} (c : Ctx) (hp : PlainP c.P d) {s : St} (h : PInv c.P d val s)
    (L : List Node) (hrun : Running c.P d val s L) (mtk : Task) (hm1 : s.tasks[1]? = some mtk) (hmok : MainOK c.P d s L mtk)
    (hct : c.t = 1) (out : Out) (hs : stepTask c s = some out)
    (horacle : ∀ d', mtk.frames = [.dagInit d'] → validOrder c.P s d' c.ord = true) : PInv c.P d val out.1 := by
  have x := h.toX hrun
  unfold stepTask at hs
  rw [hct, hm1] at hs
  -- a blocked or finished launcher takes no step; otherwise `out` is what the handler of its frame returns
  cases hmok <;> simp only [Bool.false_eq_true, if_false, Option.some.injEq, reduceCtorEq] at hs <;> subst hs
  case init h1 h2 =>
    have hvo := horacle d rfl
    have ht := topoOrd_of_validOrder hp h2 c.ord hvo
    subst h1
    simp only [dagInit, refresh_of_nil h.quiet.stale, hvo, noteOrder_true, if_true]
    split
    · next hnil =>
      -- the order cannot be empty: the output node is in it
      have := (ht.same c.P.g.output).mpr hp.outIn
      rw [hnil] at this; simp at this
    · exact launch_plain c hp hct _ s [] _ x (by simpa using ht)
  case launching rest h1 => exact launch_plain c hp hct rest s L [] x h1
  case waitingDest h1 => exact waitDest_plain hp x c hct [] h1

/-! ### steps of the caller: `chart.run`, `manager.run` -/

/-- replacing the caller's task entry (its own step, or a cancellation request) -/
theorem pinv_replace_caller {P : Program} {d : DagRef} {s : St} (h : PInv P d val s) (ctk' : Task)
    (hc : CallerOK P s ctk') : PInv P d val (s.setTask 0 ctk') := by
  have cm : Calm s (s.setTask 0 ctk') := .setTask 0 ctk' (fun _ m => by cases hc <;> simp) (fun e => by cases hc <;> simp)
  have hget : ∀ j : Nat, j ≠ 0 → (s.setTask 0 ctk').tasks[j]? = s.tasks[j]? := fun j hj => getElem?_setTask_ne _ _ _ _ hj
  obtain ⟨ctk, hc0, _⟩ := h.caller
  refine ⟨h.quiet.of_tasks _ _, h.noRecRes, ⟨ctk', ?_, hc.frame (len_setTask ..) cm⟩, ?_⟩
  · rw [getElem?_setTask (getElem?_lt hc0), if_pos rfl]
  · rcases h.rest with ⟨h1, h2⟩ | ⟨L, hl, ⟨mtk, hm1, hmok⟩, hnodes, hfresh⟩
    · exact Or.inl ⟨by simp [h1], h2⟩
    · refine Or.inr ⟨L, by simp [hl], ⟨mtk, by rw [hget 1 (by omega)]; exact hm1, hmok.frame rfl rfl cm⟩, ?_, hfresh⟩
      intro i hi
      obtain ⟨tk, htk, hok⟩ := hnodes i hi
      exact ⟨tk, by rw [hget (2 + i) (by omega)]; exact htk, hok.frame' rfl rfl⟩

theorem noErr_of_isEmpty {s : St} (h : (taskErrors s).isEmpty = true) : NoErr s := fun i tk e hi hst => by
  have := mem_taskErrors_iff.mpr ⟨i, tk, hi, hst⟩
  rw [List.isEmpty_iff.mp h] at this
  cases this

/-- what an outcome of `chart.run` means in terms of the dataflow solution (`s` = the state the caller's last
section started in) -/
def OutcomeOK (P : Program) (d : DagRef) (val : Node → Option Val) (s : St) : Outcome → Prop
  | .value v => Track P d val (val P.g.output = some v)
  | .error e => e.isException = true ∧ Track P d val (FailCause P d val e)
  | .raised e => CollabFails P e ∨ (e.isException = false ∧ Track P d val (FailCause P d val e))
  | .cancelled => ∃ tk, s.tasks[0]? = some tk ∧ tk.mustCancel = true

theorem taskError_is_node_failure {P : Program} {d : DagRef} {s : St} (h : PInv P d val s) (e : Exc)
    (he : e ∈ taskErrors s) : Track P d val (FailCause P d val e) := by
  obtain ⟨j, tk, hj, hst⟩ := mem_taskErrors_iff.mp he
  obtain ⟨L, hr, hrun⟩ := h.role hj
  cases hr with
  | caller hc => cases hc <;> cases hst
  | main hm => cases hm <;> cases hst
  | node i hi hok =>
    obtain ⟨_, _, hmok⟩ := (hrun (by omega)).main
    exact fun hsol => (hok.exc hst hsol).imp (fun h4 => ⟨L[i], hmok.mem_nodes (List.getElem_mem hi), h4⟩) id

theorem finishOutcome_plain {d : DagRef} {s : St} (c : Ctx) (h : PInv c.P d val s)
    (hfin : (!(taskErrors s).isEmpty || s.exists c.P.g.output) = true) (s0 : St) :
    OutcomeOK c.P d val s0 (finishOutcome c s) := by
  rcases finishOutcome_of_check c s hfin with ⟨e, hmem, ho⟩ | ⟨v, hr, ho⟩ <;> rw [ho]
  · have hnf := taskError_is_node_failure h e hmem
    split
    · next hex => exact ⟨hex, hnf⟩
    · next hex => exact Or.inr ⟨by simpa using hex, hnf⟩
  · exact h.agree hr

/-- **the finishing phase**: `manager.run` has left (its cleanup has cancel-marked every other task), the outcome `o` is
decided and explained, and the caller is suspended in `on_pipeline_complete` -/
structure Fin (P : Program) (d : DagRef) (val : Node → Option Val) (o : Outcome) (s : St) : Prop where
  ok     : ∀ s0, OutcomeOK P d val s0 o
  caller : ∃ (j : Nat) (mc : Bool), s.tasks[0]? = some
             { frames := [.mgrCbComplete j o], st := .runnable .go, mustCancel := mc, name := .caller }
  others : ∀ (i : Nat) (tk : Task), i ≠ 0 → s.tasks[i]? = some tk → tk.marked = true ∧ isCallerFrames tk.frames = false
  pend   : s.outcome = none

theorem Fin.begin {P : Program} {d : DagRef} {s : St} {o : Outcome} (h : PInv P d val s) (hok : ∀ s0, OutcomeOK P d val s0 o)
    {ctk : Task} (hc0 : s.tasks[0]? = some ctk) (hnm : ctk.name = .caller) (c : Ctx) (hct : c.t = 0) (obs : List Obs)
    (j : Nat) : Fin P d val o (yieldNow c (cancelTasks s (liveTasks s 0)) obs [.mgrCbComplete j o]).1 := by
  have r := Resched.cancelTasks (liveTasks s 0) s
  obtain ⟨ctk1, h1, rt⟩ := r.fwd hc0
  rw [yieldNow_fst (by rw [hct]; exact h1), rt.name, hnm, hct]
  refine ⟨hok, ⟨j, ctk1.mustCancel, ?_⟩, ?_, (congrArg St.outcome r.data).trans h.quiet.pend⟩
  · rw [getElem?_setTask (getElem?_lt h1), if_pos rfl]
  · intro i tk' hi0 hi
    rw [getElem?_setTask_ne _ _ _ _ hi0] at hi
    obtain ⟨tk, h0, rt⟩ := r.back hi
    obtain ⟨tk'', h1', h2'⟩ := marked_cancelTasks (liveTasks s 0) s i tk h0
      (Or.inl (mem_liveTasks s 0 i (getElem?_lt h0) hi0))
    rw [hi] at h1'; cases h1'
    refine ⟨h2', ?_⟩
    -- cancellation does not change frames; the frames of the other tasks are not `chart.run`'s
    rw [rt.frames]
    obtain ⟨L, hr, _⟩ := h.role h0
    cases hr with
    | caller => exact absurd rfl hi0
    | main hm => cases hm <;> rfl
    | node _ _ hok => cases hok <;> rfl

inductive StepResult (P : Program) (d : DagRef) (val : Node → Option Val) (s : St) (out : Out) : Prop
  | returned (o : Outcome) : out.1.outcome = some o → OutcomeOK P d val s o → StepResult P d val s out
  | running : PInv P d val out.1 → StepResult P d val s out
  | finishing (o : Outcome) : Fin P d val o out.1 → StepResult P d val s out

/-- `chart.run` after `on_pipeline_start` returned, when only the caller's task exists -/
theorem mgrBegin_plain {d : DagRef} (c : Ctx) (hp : PlainP c.P d) {s : St} (h : PInv c.P d val s)
    (hct : c.t = 0) (fr : List Frame) (hl1 : s.tasks = [⟨fr, .runnable .go, false, .caller⟩])
    (obs : List Obs) : PInv c.P d val (mgrBegin c s obs).1 := by
  have hfr : ∀ n, s.proc n = false ∧ s.res n = none := by
    rcases h.rest with ⟨_, h2⟩ | ⟨L, hl, _⟩
    · exact h2
    · rw [hl1] at hl; simp at hl; omega
  have hne0 : (taskErrors (spawn s [.dagInit d] .run).1).isEmpty = true := by simp [taskErrors, spawn, hl1]
  have hex0 : (spawn s [.dagInit d] .run).1.exists c.P.g.output = false := by simp [St.exists, spawn, (hfr _).2]
  simp only [mgrBegin, hp.pools, Bool.not_true, Bool.false_eq_true, if_false, hp.main s h.quiet.opened]
  simp only [mgrCheck, hne0, hex0, Bool.not_true, Bool.or_false, Bool.false_eq_true, if_false, block, hct]
  simp only [spawn, hl1, List.cons_append, List.nil_append, List.getElem?_cons_zero, St.setTask, List.set_cons_zero]
  exact ⟨h.quiet.of_tasks _ _, h.noRecRes,
    ⟨_, rfl, .waiting (by simp) (noErr_of_isEmpty (by simp [taskErrors])) (not_settled_of_res_none (hfr _).2)⟩,
    Or.inr ⟨[], by simp, ⟨_, rfl, .init rfl (fun n => (hfr n).1)⟩, by intro i hi; simp at hi, fun n _ => hfr n⟩⟩

/-- `on_pipeline_start` (which may suspend) and then `mgrBegin` -/
theorem mgrCbStart_plain {d : DagRef} (c : Ctx) (hp : PlainP c.P d) {s : St} (h : PInv c.P d val s)
    (hct : c.t = 0) (fr : List Frame) (hl1 : s.tasks = [⟨fr, .runnable .go, false, .caller⟩])
    (obs : List Obs) (m : Nat) :
    PInv c.P d val (cbThen c s obs (fun j => [.mgrCbStart j]) m (fun s obs => mgrBegin c s obs)).1 := by
  cases m with
  | zero => exact mgrBegin_plain c hp h hct fr hl1 obs
  | succ j =>
    simp only [cbThen]
    rw [yieldNow_fst (by rw [hct, hl1]; rfl), hct]
    exact pinv_replace_caller h _ (.cbStart j false (by rw [hl1]; rfl))

theorem pinv_step_caller {d : DagRef} (c : Ctx) (hp : PlainP c.P d) {s : St} (h : PInv c.P d val s)
    (hct : c.t = 0) (out : Out) (hs : stepTask c s = some out) :
    StepResult c.P d val s out := by
  obtain ⟨ctk, hc0, hcok⟩ := h.caller
  obtain ⟨tk, rv, htk, hrv, hcase⟩ := stepTask_cases hs
  rw [hct, hc0] at htk
  cases htk
  rcases hcase with ⟨hmc, rfl⟩ | ⟨hmc, hsec⟩
  · -- a pending cancellation is delivered: wherever `chart.run` was, it ends with `CancelledError`
    refine .returned .cancelled ?_ ⟨_, hc0, hmc⟩
    cases hcok with
    | waiting => cases hrv
    | start | cbStart | woken => rfl
  · cases hcok with
    | waiting => cases hrv
    | start mc h1 =>
      obtain rfl : mc = false := hmc
      cases hsec
      simp only [mgrStart, cbCall]
      cases hr1 : c.P.cbRaise .pstart 0 with
      | some e => exact .returned (.raised e) rfl (Or.inl ⟨_, _, hr1⟩)
      | none => exact .running (mgrCbStart_plain c hp h hct _ (tasks_singleton h1 hc0).2 _ _)
    | cbStart j mc h1 =>
      obtain rfl : mc = false := hmc
      cases hsec
      exact .running (mgrCbStart_plain c hp h hct _ (tasks_singleton h1 hc0).2 _ _)
    | woken mc h1 =>
      obtain rfl : mc = false := hmc
      cases hsec
      rcases mgrCheck_cases c s [] with ⟨hfin, e⟩ | ⟨herr, hex, e⟩ <;> rw [e]
      · have main := finishOutcome_plain c h hfin
        simp only [mgrFinish]
        rcases mgrComplete_cases c (cancelTasks s (liveTasks s c.t)) [] (finishOutcome c s)
          with ⟨obs', o', hr, rfl | ⟨e, he, rfl⟩⟩ | ⟨j, -, hj⟩
        · rw [hr]; exact .returned _ rfl (main s)
        · rw [hr]; exact .returned (.raised e) rfl (Or.inl ⟨_, _, he⟩)
        · rw [hj, hct]
          exact .finishing _ (Fin.begin h main hc0 rfl c hct _ j)
      · refine .running ?_
        rw [block_fst (by rw [hct]; exact hc0), hct]
        exact pinv_replace_caller h _
          (.waiting h1 (noErr_of_isEmpty (by rw [herr]; rfl)) (h.quiet.not_settled (by simp [hex])))

end MLPE.Eng
