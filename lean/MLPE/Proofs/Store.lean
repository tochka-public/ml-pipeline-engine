import MLPE.Store

/-! The file store refines a map from keys to values: file names are injective (`pathOf_inj`), `abs` reads a directory as the
abstract store, and every operation on a decodable directory is the abstract one (`step_refines`, `run_refines`). -/
namespace MLPE.Store

theorem ext_ne_aux (a b : String) : a ++ ".pickle" ≠ b ++ ".json" := by
  intro h
  have h2 := congrArg String.toList h
  simp only [String.toList_append] at h2
  have h3 := congrArg List.getLast? h2
  simp at h3

theorem pathOf_inj {k k' : Key} {f f' : Fmt} (h : pathOf k f = pathOf k' f') : k = k' ∧ f = f' := by
  cases k with | mk c n => cases k' with | mk c' n' =>
  simp only [pathOf, Path.mk.injEq] at h
  obtain ⟨hc, hn⟩ := h
  subst hc
  cases f <;> cases f' <;> simp only [Fmt.ext] at hn
  · exact ⟨by rw [(String.append_left_inj _).mp hn], rfl⟩
  · exact absurd hn (ext_ne_aux _ _)
  · exact absurd hn.symm (ext_ne_aux _ _)
  · exact ⟨by rw [(String.append_left_inj _).mp hn], rfl⟩

variable {V B : Type}

def abs (c : Codec V B) (fs : FS B) : Spec V :=
  fun k => match find fs k with
    | some (f, b) => c.dec f b
    | none => none

def canEnc (c : Codec V B) (f : Fmt) (v : V) : Bool := (c.enc f v).isSome

theorem find_eq_none {fs : FS B} {k : Key} (h : find fs k = none) (f : Fmt) : fs (pathOf k f) = none := by
  unfold find at h
  split at h
  · cases h
  · split at h
    · cases h
    · cases f <;> assumption

theorem find_write {fs : FS B} {k : Key} (h : find fs k = none) (f : Fmt) (b : B) (k' : Key) :
    find (fs.write (pathOf k f) b) k' = if k' = k then some (f, b) else find fs k' := by
  by_cases e : k' = k
  · subst e
    have hpj : pathOf k' .pickle ≠ pathOf k' .json := fun h => by cases (pathOf_inj h).2
    cases f <;> simp [find, FS.write, find_eq_none h, hpj]
  · have h1 : ∀ f', pathOf k' f' ≠ pathOf k f := fun f' h => e (pathOf_inj h).1
    simp [find, FS.write, h1, e]

/-- a key that has a file denotes a value: no torn or undecodable file is ever looked at -/
def Decodable (c : Codec V B) (fs : FS B) : Prop :=
  ∀ k, abs c fs k = none → find fs k = none

theorem find_cases {c : Codec V B} {fs : FS B} (hd : Decodable c fs) (k : Key) :
    (find fs k = none ∧ abs c fs k = none) ∨
    ∃ f b v, find fs k = some (f, b) ∧ c.dec f b = some v ∧ abs c fs k = some v := by
  cases hf : find fs k with
  | none => exact .inl ⟨rfl, by simp only [abs, hf]⟩
  | some fb =>
    have ha : abs c fs k = c.dec fb.1 fb.2 := by simp only [abs, hf]
    cases hv : c.dec fb.1 fb.2 with
    | none => rw [hd k (ha.trans hv)] at hf; cases hf
    | some v => exact .inr ⟨fb.1, fb.2, v, rfl, hv, ha.trans hv⟩

theorem abs_write {c : Codec V B} {fs : FS B} {k : Key} (h : find fs k = none) (f : Fmt) (b : B) :
    abs c (fs.write (pathOf k f) b) = fun q => if q = k then c.dec f b else abs c fs q := by
  funext q
  by_cases e : q = k <;> simp only [abs, find_write h, e, if_true, if_false]

theorem step_refines {c : Codec V B} (hrt : c.RoundTrip) {fs : FS B} (hd : Decodable c fs) (op : Op V) :
    (step c fs op).2 = (specStep (canEnc c) (abs c fs) op).2 ∧
    abs c (step c fs op).1 = (specStep (canEnc c) (abs c fs) op).1 ∧
    Decodable c (step c fs op).1 := by
  cases op with
  | load k =>
    rcases find_cases hd k with ⟨hf, ha⟩ | ⟨f, b, v, hf, hv, ha⟩
    · simp [step, specStep, hf, ha, hd]
    · simp [step, specStep, hf, ha, hv, hd]
  | save k v f =>
    rcases find_cases hd k with ⟨hf, ha⟩ | ⟨f', b', v', hf, hv, ha⟩
    · simp only [step, specStep, hf, ha]
      cases he : c.enc f v with
      | none => simp [canEnc, he, hd]
      | some b =>
        have hw := abs_write (c := c) hf f b
        rw [hrt _ _ _ he] at hw
        simp only [canEnc, he, Option.isSome_some, if_true, true_and, hw]
        intro q
        simp only [hw, find_write hf]
        by_cases e : q = k
        · simp [e]
        · simpa [e] using hd q
    · simp [step, specStep, hf, ha, hd]

theorem run_refines {c : Codec V B} (hrt : c.RoundTrip) (ops : List (Op V)) :
    ∀ {fs : FS B}, Decodable c fs →
    (run c fs ops).2 = (specRun (canEnc c) (abs c fs) ops).2 ∧
    abs c (run c fs ops).1 = (specRun (canEnc c) (abs c fs) ops).1 ∧
    Decodable c (run c fs ops).1 := by
  induction ops with
  | nil => intro fs hd; exact ⟨rfl, rfl, hd⟩
  | cons op ops ih =>
    intro fs hd
    obtain ⟨h1, h2, h3⟩ := step_refines hrt hd op
    obtain ⟨i1, i2, i3⟩ := ih h3
    simp only [run, specRun]
    rw [← h2]
    exact ⟨by rw [i1, h1], i2, i3⟩

end MLPE.Store
