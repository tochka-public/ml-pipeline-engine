import MLPE.Proofs.Specs
import MLPE.Proofs.EngBasic
import MLPE.LiveSpec

/-!
# Stuck-freedom of pipelines with switches (no one-of, no recurrent subgraph), under every schedule

`Struct`: an invariant of every state of a pending run that rules out the idle-and-pending state: some task is runnable,
or a node body / retry timer is outstanding.  Values play no role.  The invariant describes every task by its name and
frame stack (`TaskOK`), keeps the bookkeeping of the launch loops (`Launched`), and states *no lost wake-up* the way the
code guarantees it: `run()` blocked ⇒ no task has failed and the output has no result; a node's waiter blocked ⇒ the node
is being executed by a live task; a launch loop blocked on `cond[m]` ⇒ `m` is not ready, or it became ready because a
switch source recorded its decision when the selected case had been computed already — and then the `_run_switch` task of
that switch has not returned yet: it notifies its consumers when it does.

Scope: collaborators (event managers, artifact store) that complete **without suspending** (they may raise): a result
is then stored and announced in one section.  (For plain pipelines `Proofs/Plain.lean` also covers suspending
collaborators.)

The file: the invariant (`TaskOK`, `LData`, `Struct`), the hypotheses `LiveP` (their Boolean form is in `LiveSpec.lean`,
`liveP_of_check` in `LiveCheck.lean`), and the static part — a state that satisfies `Struct` is not stuck (`Struct.live`,
`struct_live`).  That every step preserves `Struct` is `LiveStep.lean` (how a section re-establishes it), `LiveDag.lean` and
`LiveNode.lean` (the sections), `LiveRun.lean` (the caller, the environment, reachability).
-/
namespace MLPE.Eng
open MLPE

variable {P : Program} {depth : Node → Nat}

def Task.nonDone (tk : Task) : Prop := ∀ r, tk.st ≠ .done r

/-- the task is past `set_node_as_processed` in `_execute_node`: it is the one that executes the node -/
def NodePc.exec : NodePc → Bool
  | .start => false
  | .evWait => false
  | _ => true

theorem NodePc.exec_of_ne {pc : NodePc} (h1 : pc ≠ .start) (h2 : pc ≠ .evWait) : pc.exec = true := by
  cases pc with
  | start => exact absurd rfl h1
  | evWait => exact absurd rfl h2
  | _ => rfl

/-- the points at which a node task rests when the collaborators do not suspend: awaiting the body, the retry timer -/
def NodePc.rests : NodePc → Bool
  | .body _ _ _ => true
  | .sleep _ _ _ => true
  | _ => false

def Executor (s : St) (n : Node) : Prop :=
  ∃ (i : Nat) (tk : Task), s.tasks[i]? = some tk ∧ tk.live ∧ ∃ (d : DagRef) (f : Bool) (pc : NodePc),
    tk.frames = [.node d n f pc] ∧ pc.exec = true

/-- a `_run_switch` task for `S` that has not returned and is not sitting in the final wait of its sub-DAG: it is going
to notify the consumers of `S` -/
def SwOwner (s : St) (S : Node) : Prop :=
  ∃ (i : Nat) (tk : Task), s.tasks[i]? = some tk ∧ tk.nonDone ∧
    ((∃ d, tk.frames = [.switchStart d S]) ∨ (∃ d, tk.frames = [.switchRet d S]) ∨
     (∃ d sub, tk.frames = [.dagInit sub, .switchRet d S]) ∨
     (∃ d sub rest, tk.frames = [.dagLaunch sub rest, .switchRet d S]))

def ownerOf : List Frame → Option Node
  | [.switchStart _ S] | [.switchRet _ S] | [.dagInit _, .switchRet _ S] | [.dagLaunch _ _, .switchRet _ S] => some S
  | _ => none

theorem ownerOf_eq_some {fs : List Frame} {S : Node} : ownerOf fs = some S ↔
    ((∃ d, fs = [.switchStart d S]) ∨ (∃ d, fs = [.switchRet d S]) ∨ (∃ d sub, fs = [.dagInit sub, .switchRet d S]) ∨
     (∃ d sub rest, fs = [.dagLaunch sub rest, .switchRet d S])) := by
  constructor
  · intro h
    unfold ownerOf at h
    split at h <;> cases h
    · exact Or.inl ⟨_, rfl⟩
    · exact Or.inr (Or.inl ⟨_, rfl⟩)
    · exact Or.inr (Or.inr (Or.inl ⟨_, _, rfl⟩))
    · exact Or.inr (Or.inr (Or.inr ⟨_, _, _, rfl⟩))
  · rintro (⟨d, rfl⟩ | ⟨d, rfl⟩ | ⟨d, sub, rfl⟩ | ⟨d, sub, rest, rfl⟩) <;> rfl

/-- somebody is still going to notify `cond[m]` -/
def OwnerM (P : Program) (s : St) (m : Node) : Prop := ∃ S ∈ basePreds P m, P.g.isSwitch S = true ∧ SwOwner s S

/-- the launch loop has dealt with `q`: an ordinary node is processed or its freshly created task is about to start; a
switch node has its `_run_switch` task -/
def Launched (P : Program) (s : St) (q : Node) : Prop :=
  if P.g.isSwitch q then ∃ (i : Nat) (tk : Task), s.tasks[i]? = some tk ∧ tk.name = .node q
  else s.proc q = true ∨ ∃ (i : Nat) (tk : Task) (d : DagRef), s.tasks[i]? = some tk ∧ tk.frames = [.node d q false .start] ∧
    tk.st = .runnable .go

theorem Launched.of_proc {s : St} {q : Node} (hq : P.g.isSwitch q = false) (h : s.proc q = true) :
    Launched P s q := by
  unfold Launched
  rw [if_neg (by simp [hq])]
  exact Or.inl h

structure DagOK (P : Program) (d : DagRef) : Prop where
  notRec : d.isRec = false
  notOne : d.isOneof = false
  closed : ∀ m ∈ d.nodes, ∀ u ∈ basePreds P m, u ∈ d.nodes

def TopoRest (P : Program) (rest : List Node) : Prop :=
  ∀ (pre : List Node) (m : Node) (post : List Node), rest = pre ++ m :: post → ∀ u ∈ basePreds P m, u ∉ m :: post

structure SubOK' (P : Program) (depth : Node → Nat) (s : St) (sub : DagRef) (S : Node) : Prop where
  dag  : DagOK P sub
  sel  : ∃ l c, s.sw S = some (l, c) ∧ sub.dest = some c ∧ c ∈ sub.nodes ∧ ∀ x ∈ sub.nodes, depth x ≤ depth c

/-- the frames of a `_run_dag`: entry, launch loop, final wait -/
inductive DagFrame (P : Program) (s : St) : Frame → DagRef → Prop
  | init (d : DagRef) : DagFrame P s (.dagInit d) d
  | launch (d : DagRef) (m : Node) (rest : List Node) :
      (∀ q ∈ d.nodes, q ∉ m :: rest → Launched P s q) → (∀ q ∈ m :: rest, q ∈ d.nodes) → TopoRest P (m :: rest) →
      DagFrame P s (.dagLaunch d (m :: rest)) d
  | wait (d : DagRef) : (∀ q ∈ d.nodes, Launched P s q) → DagFrame P s (.dagWaitDest d) d

/-- how a launch-loop task may be suspended: runnable, or blocked on the condition of the node at the head of its list —
and then, if that node is ready after all, somebody is still going to notify the condition (no lost wake-up) -/
def LaunchSt (P : Program) (s : St) (tk : Task) : Frame → Prop
  | .dagInit _ => ∃ rv, tk.st = .runnable rv
  | .dagLaunch d (m :: _) => d.isRec = false ∧
      ((∃ rv, tk.st = .runnable rv) ∨ (tk.st = .blocked (.cond (.node m)) ∧ (ready P s d m = true → OwnerM P s m)))
  | .dagWaitDest d => (∃ rv, tk.st = .runnable rv) ∨ tk.st = .blocked (.cond d.destKey)
  | _ => False

inductive TaskOK (P : Program) (depth : Node → Nat) (s : St) : Task → Prop
  | callerStart (tk : Task) : tk.name = .caller → tk.frames = [.mgrStart] → (∃ rv, tk.st = .runnable rv) →
      s.tasks.length = 1 → (∀ n, s.proc n = false) → (∀ n, s.evSet n = false) → (∀ S, s.sw S = none) →
      TaskOK P depth s tk
  | callerWait (tk : Task) : tk.name = .caller → tk.frames = [.mgrWait] →
      ((∃ rv, tk.st = .runnable rv) ∨
       (tk.st = .blocked (.cond .run) ∧ taskErrors s = [] ∧ s.res P.g.output = none)) →
      TaskOK P depth s tk
  | main (tk : Task) (F : Frame) (d : DagRef) : tk.name = .run → tk.frames = [F] → DagFrame P s F d → DagOK P d →
      d.dest = some P.g.output → P.g.output ∈ d.nodes → LaunchSt P s tk F → TaskOK P depth s tk
  | mainDone (tk : Task) : tk.name = .run → tk.frames = [] → tk.st = .done .ok → Launched P s P.g.output →
      TaskOK P depth s tk
  | nodeStart (tk : Task) (d : DagRef) (q : Node) : tk.name = .node q → P.g.isSwitch q = false →
      tk.frames = [.node d q false .start] → tk.st = .runnable .go → TaskOK P depth s tk
  | nodeWait (tk : Task) (d : DagRef) (q : Node) : tk.name = .node q → P.g.isSwitch q = false →
      tk.frames = [.node d q false .evWait] →
      (((∃ rv, tk.st = .runnable rv) ∧ s.evSet q = true) ∨ tk.st = .blocked (.event q)) →
      s.proc q = true → TaskOK P depth s tk
  | nodeExec (tk : Task) (d : DagRef) (q : Node) (pc : NodePc) : tk.name = .node q → P.g.isSwitch q = false →
      tk.frames = [.node d q false pc] → pc ≠ .start → pc ≠ .evWait → tk.live → s.proc q = true → s.res q = none →
      pc.rests = true → TaskOK P depth s tk
  | nodeDone (tk : Task) (q : Node) (r : TaskRes) : tk.name = .node q → P.g.isSwitch q = false → tk.frames = [] →
      tk.st = .done r → r ≠ .cancelled → s.evSet q = true → TaskOK P depth s tk
  | swStart (tk : Task) (d : DagRef) (S : Node) : tk.name = .node S → P.g.isSwitch S = true →
      tk.frames = [.switchStart d S] → d.isOneof = false → tk.st = .runnable .go → TaskOK P depth s tk
  | swIn (tk : Task) (F : Frame) (sub d : DagRef) (S : Node) : tk.name = .node S → P.g.isSwitch S = true →
      tk.frames = [F, .switchRet d S] → DagFrame P s F sub → SubOK' P depth s sub S → LaunchSt P s tk F →
      TaskOK P depth s tk
  | swRet (tk : Task) (d : DagRef) (S : Node) : tk.name = .node S → P.g.isSwitch S = true →
      tk.frames = [.switchRet d S] → (∃ v, tk.st = .runnable (.ret v)) →
      (∃ l c, s.sw S = some (l, c) ∧ Launched P s c) → TaskOK P depth s tk
  | swDone (tk : Task) (S : Node) (r : TaskRes) : tk.name = .node S → P.g.isSwitch S = true → tk.frames = [] →
      tk.st = .done r → r ≠ .cancelled → (r = .ok → ∃ l c, s.sw S = some (l, c) ∧ Launched P s c) → TaskOK P depth s tk

structure LData (P : Program) (s : St) : Prop where
  noHid  : ∀ n, s.resHid n = false ∧ s.procHid n = false
  noRec  : ∀ n v, s.res n = some v → v.isRecur = false
  c1     : ∀ n, s.proc n = true → s.evSet n = true ∨ Executor s n
  /-- an announced node has a result, unless some task has failed (then `run()` has been notified) -/
  c4     : ∀ n, s.evSet n = true → (s.res n).isSome = true ∨ taskErrors s ≠ []
  /-- a result is stored and announced in one section -/
  c5     : ∀ n, (s.res n).isSome = true → s.evSet n = true
  swEdge : ∀ S l c, s.sw S = some (l, c) → P.g.isSwitch c = false ∧ ∃ e ∈ P.g.edges, e.u = c ∧ e.v = S
  swSel  : ∀ S lc, s.sw S = some lc → switchSelect P s S = some lc
  c6     : ∀ n, (s.res n).isSome = true → s.proc n = true
  procPlain : ∀ n, s.proc n = true → P.g.isSwitch n = false
  uniq   : ∀ (i j : Nat) (ti tj : Task) (q : Node) (d1 d2 : DagRef) (f1 f2 : Bool) (p1 p2 : NodePc),
    s.tasks[i]? = some ti → s.tasks[j]? = some tj → ti.frames = [.node d1 q f1 p1] → tj.frames = [.node d2 q f2 p2] →
    p1.exec = true → p2.exec = true → i = j
  noCancel : ∀ tk ∈ s.tasks, tk.mustCancel = false
  /-- no restart of a recurrent subgraph, so nothing is invalidated -/
  stale  : s.stale = []

structure Struct (P : Program) (depth : Node → Nat) (s : St) : Prop where
  data   : LData P s
  tasks  : ∀ (i : Nat) (tk : Task), s.tasks[i]? = some tk → TaskOK P depth s tk
  caller : ∃ tk, s.tasks[0]? = some tk ∧ tk.name = .caller
  /-- once `manager.run` waits, the main `_run_dag` task exists -/
  main   : ∀ tk, s.tasks[0]? = some tk → tk.frames = [.mgrWait] → ∃ tk1, s.tasks[1]? = some tk1 ∧ tk1.name = .run

theorem Struct.noCancel {s : St} (hs : Struct P depth s) {i : Nat} {tk : Task}
    (h : s.tasks[i]? = some tk) : tk.mustCancel = false :=
  hs.data.noCancel tk (List.mem_of_getElem? h)

/-- hypotheses on the program: switches only, a depth function along which every edge goes up, collaborators that do
not suspend -/
structure LiveP (P : Program) (depth : Node → Nat) : Prop where
  sw       : SwP P
  acyclic  : ∀ e ∈ P.g.edges, depth e.u < depth e.v
  outPlain : P.g.isSwitch P.g.output = false
  noYield  : ∀ cb n, P.cbYield cb n = 0
  /-- no candidate edges, case labels only on edges into switch nodes, from ordinary nodes -/
  noCands  : ∀ e ∈ P.g.edges, (P.g.attr e.v).oneofNodes.contains e.u = false
  caseSw   : ∀ e ∈ P.g.edges, P.g.isSwitch e.v = false → e.case = none
  decNoCase : ∀ e ∈ P.g.edges, e.isSwitch = true → e.case = none
  casePlain : ∀ e ∈ P.g.edges, e.case.isSome = true → P.g.isSwitch e.u = false
  /-- the reduced DAGs the engine builds — up to the output, up to a case node — end in their destination, are closed
  under dependencies, and contain only nodes at most as deep as the destination -/
  dagsOK   : ∀ (s : St) (dst : Node) (nst : Bool), (dst = P.g.output ∨ ∃ e ∈ P.g.edges, e.u = dst ∧ e.case.isSome = true) →
    ∃ d, reducedRef P s P.g.input dst false false nst = some d ∧
    d.dest = some dst ∧ dst ∈ d.nodes ∧ (∀ m ∈ d.nodes, ∀ u ∈ basePreds P m, u ∈ d.nodes) ∧ ∀ x ∈ d.nodes, depth x ≤ depth dst

theorem LiveP.dag (hp : LiveP P depth) (s : St) (dst : Node) (nst : Bool)
    (h : dst = P.g.output ∨ ∃ e ∈ P.g.edges, e.u = dst ∧ e.case.isSome = true) :
    ∃ d, reducedRef P s P.g.input dst false false nst = some d ∧ d.dest = some dst ∧ dst ∈ d.nodes ∧ DagOK P d ∧
      ∀ x ∈ d.nodes, depth x ≤ depth dst := by
  obtain ⟨d, hd, hdst, hmem, hclosed, hdepth⟩ := hp.dagsOK s dst nst h
  obtain ⟨ns, _, rfl⟩ := reducedRef_some hp.sw.toOneP hd
  exact ⟨_, hd, hdst, hmem, ⟨rfl, rfl, hclosed⟩, hdepth⟩

/-! ### the static part: a state that satisfies `Struct` is not stuck -/

theorem Still.not_runnable {s : St} (hq : Still s) {i : Nat} {tk : Task} (h : s.tasks[i]? = some tk) :
    ¬ ∃ rv, tk.st = .runnable rv := fun hr => hq i tk h (Or.inl hr)

theorem launched_has_result {s : St} (hd : LData P s) (hq : Still s) (he : taskErrors s = [])
    {q : Node} (hns : P.g.isSwitch q = false) (hl : Launched P s q) :
    s.exists q = true ∧ (s.get q).isRecur = false := by
  unfold Launched at hl
  simp only [hns, Bool.false_eq_true, if_false] at hl
  have hp : s.proc q = true := by
    rcases hl with h | ⟨i, tk, d, h1, _, h3⟩
    · exact h
    · exact absurd (Or.inl ⟨_, h3⟩) (hq i tk h1)
  have hev : s.evSet q = true := by
    rcases hd.c1 q hp with h | ⟨i, tk, h1, h2, _⟩
    · exact h
    · exact absurd h2 (hq i tk h1)
  rcases hd.c4 q hev with h | h
  · exact ⟨(exists_visible (fun n => (hd.noHid n).1) q).trans h, get_notRecur hd.noRec q⟩
  · exact absurd he h

/-- the depth chain `m' ≤ case < switch < consumer` -/
theorem SubOK'.depth_lt (hac : ∀ e ∈ P.g.edges, depth e.u < depth e.v) {s : St}
    (hd : LData P s) {S m m' : Node} {sub : DagRef} (hS : S ∈ basePreds P m) (hsub : SubOK' P depth s sub S)
    (hm' : m' ∈ sub.nodes) : depth m' < depth m := by
  obtain ⟨l, c, hsw, _, _, hle⟩ := hsub.sel
  obtain ⟨_, e, he, hu, hv⟩ := hd.swEdge S l c hsw
  obtain ⟨e2, he2, hu2, hv2, _⟩ := mem_basePreds_edge hS
  have h1 := hac e he
  have h2 := hac e2 he2
  rw [hu, hv] at h1
  rw [hu2, hv2] at h2
  have := hle m' hm'
  omega

theorem depth_chain {P : Program} {depth : Node → Nat} (hp : LiveP P depth) {s : St} (hd : LData P s)
    {S m m' : Node} {sub : DagRef} (hS : S ∈ basePreds P m) (hsub : SubOK' P depth s sub S) (hm' : m' ∈ sub.nodes) :
    depth m' < depth m :=
  hsub.depth_lt hp.acyclic hd hS hm'

/-! ### what `TaskOK` says about a task, by its name and by its frames -/

section inversion
variable {s : St} {tk : Task}

theorem TaskOK.of_caller (h : TaskOK P depth s tk) (hname : tk.name = .caller) :
    (tk.frames = [.mgrStart] ∧ ∃ rv, tk.st = .runnable rv) ∨
    (tk.frames = [.mgrWait] ∧ ((∃ rv, tk.st = .runnable rv) ∨
      (tk.st = .blocked (.cond .run) ∧ taskErrors s = [] ∧ s.res P.g.output = none))) := by
  cases h with
  | callerStart _ hfr hst => exact Or.inl ⟨hfr, hst⟩
  | callerWait _ hfr hst => exact Or.inr ⟨hfr, hst⟩
  | main _ _ hn | mainDone hn | nodeStart _ _ hn | nodeWait _ _ hn | nodeExec _ _ _ hn | nodeDone _ _ hn
  | swStart _ _ hn | swIn _ _ _ _ hn | swRet _ _ hn | swDone _ _ hn => rw [hn] at hname; cases hname

theorem TaskOK.of_run (h : TaskOK P depth s tk) (hname : tk.name = .run) :
    (∃ F d, tk.frames = [F] ∧ DagFrame P s F d ∧ DagOK P d ∧ d.dest = some P.g.output ∧ P.g.output ∈ d.nodes ∧
      LaunchSt P s tk F) ∨
    (tk.frames = [] ∧ tk.st = .done .ok ∧ Launched P s P.g.output) := by
  cases h with
  | main F d _ hfr hdf hdag hdest hout hst => exact Or.inl ⟨F, d, hfr, hdf, hdag, hdest, hout, hst⟩
  | mainDone _ hfr hst hres => exact Or.inr ⟨hfr, hst, hres⟩
  | callerStart hn | callerWait hn | nodeStart _ _ hn | nodeWait _ _ hn | nodeExec _ _ _ hn | nodeDone _ _ hn
  | swStart _ _ hn | swIn _ _ _ _ hn | swRet _ _ hn | swDone _ _ hn => rw [hn] at hname; cases hname

theorem TaskOK.of_switch (h : TaskOK P depth s tk) {S : Node} (hname : tk.name = .node S) (hS : P.g.isSwitch S = true) :
    (∃ d, tk.frames = [.switchStart d S] ∧ tk.st = .runnable .go) ∨
    (∃ F sub d, tk.frames = [F, .switchRet d S] ∧ DagFrame P s F sub ∧ SubOK' P depth s sub S ∧ LaunchSt P s tk F) ∨
    (∃ d v, tk.frames = [.switchRet d S] ∧ tk.st = .runnable (.ret v) ∧ ∃ l c, s.sw S = some (l, c) ∧ Launched P s c) ∨
    (∃ r, tk.frames = [] ∧ tk.st = .done r ∧ r ≠ .cancelled ∧ (r = .ok → ∃ l c, s.sw S = some (l, c) ∧ Launched P s c)) := by
  cases h with
  | callerStart hn | callerWait hn | main _ _ hn | mainDone hn => rw [hn] at hname; cases hname
  | nodeStart _ _ hn hns | nodeWait _ _ hn hns | nodeExec _ _ _ hn hns | nodeDone _ _ hn hns =>
    rw [hn] at hname; cases hname; rw [hS] at hns; cases hns
  | swStart d _ hn _ hfr _ hst => rw [hn] at hname; cases hname; exact Or.inl ⟨d, hfr, hst⟩
  | swIn F sub d _ hn _ hfr hdf hsub hst =>
    rw [hn] at hname; cases hname; exact Or.inr (Or.inl ⟨F, sub, d, hfr, hdf, hsub, hst⟩)
  | swRet d _ hn _ hfr hst hsw =>
    rw [hn] at hname; cases hname; obtain ⟨v, hv⟩ := hst; exact Or.inr (Or.inr (Or.inl ⟨d, v, hfr, hv, hsw⟩))
  | swDone _ r hn _ hfr hst hnc hok =>
    rw [hn] at hname; cases hname; exact Or.inr (Or.inr (Or.inr ⟨r, hfr, hst, hnc, hok⟩))

def Frame.isDag : Frame → Bool
  | .dagInit _ => true
  | .dagLaunch _ _ => true
  | .dagWaitDest _ => true
  | _ => false

theorem dagTask_facts (h : TaskOK P depth s tk) {F : Frame} {below : List Frame} (hf : tk.frames = F :: below)
    (hF : F.isDag = true) :
    ∃ d, DagFrame P s F d ∧ DagOK P d ∧ LaunchSt P s tk F ∧
      ((below = [] ∧ tk.name = .run ∧ d.dest = some P.g.output ∧ P.g.output ∈ d.nodes) ∨
       (∃ d' S, below = [.switchRet d' S] ∧ P.g.isSwitch S = true ∧ tk.name = .node S ∧ SubOK' P depth s d S)) := by
  cases h with
  | main _ d hn hfr hdf hdag hdest hout hst =>
    rw [hfr] at hf; cases hf; exact ⟨d, hdf, hdag, hst, Or.inl ⟨rfl, hn, hdest, hout⟩⟩
  | swIn _ sub d S hn hsS hfr hdf hsub hst =>
    rw [hfr] at hf; cases hf; exact ⟨sub, hdf, hsub.dag, hst, Or.inr ⟨d, S, rfl, hsS, hn, hsub⟩⟩
  | callerStart _ hfr | callerWait _ hfr | mainDone _ hfr | nodeStart _ _ _ _ hfr | nodeWait _ _ _ _ hfr
  | nodeExec _ _ _ _ _ hfr | nodeDone _ _ _ _ hfr | swStart _ _ _ _ hfr | swRet _ _ _ _ hfr | swDone _ _ _ _ hfr =>
    rw [hfr] at hf; cases hf <;> cases hF

theorem TaskOK.exec_proc (h : TaskOK P depth s tk) {d : DagRef} {q : Node} {f : Bool} {pc : NodePc}
    (hf : tk.frames = [.node d q f pc]) (hpc : pc.exec = true) : s.proc q = true := by
  cases h with
  | nodeExec _ _ _ _ _ hfr _ _ _ hproc => rw [hfr] at hf; cases hf; exact hproc
  | nodeStart _ _ _ _ hfr | nodeWait _ _ _ _ hfr => rw [hfr] at hf; cases hf; cases hpc
  | main _ _ _ hfr hdf => rw [hfr] at hf; cases hf; cases hdf
  | callerStart _ hfr | callerWait _ hfr | mainDone _ hfr | nodeDone _ _ _ _ hfr | swStart _ _ _ _ hfr
  | swIn _ _ _ _ _ _ hfr | swRet _ _ _ _ hfr | swDone _ _ _ _ hfr => rw [hfr] at hf; cases hf

end inversion

theorem launcher_facts {s : St} {tk : Task} (h : TaskOK P depth s tk)
    {d : DagRef} {m : Node} {r : List Node} {below : List Frame} (hf : tk.frames = .dagLaunch d (m :: r) :: below) :
    DagOK P d ∧ (∀ q ∈ d.nodes, q ∉ m :: r → Launched P s q) ∧ (∀ q ∈ m :: r, q ∈ d.nodes) ∧ TopoRest P (m :: r) ∧
    ((∃ rv, tk.st = .runnable rv) ∨ (tk.st = .blocked (.cond (.node m)) ∧ (ready P s d m = true → OwnerM P s m))) ∧
    (below = [] ∨ ∃ d' S, below = [.switchRet d' S] ∧ P.g.isSwitch S = true ∧ tk.name = .node S ∧ SubOK' P depth s d S) := by
  obtain ⟨_, hdf, hdag, hst, hrole⟩ := dagTask_facts h hf rfl
  cases hdf with
  | launch _ _ _ h1 h2 h3 => exact ⟨hdag, h1, h2, h3, hst.2, hrole.imp And.left id⟩

theorem swOwner_task {s : St} {tk : Task} (h : TaskOK P depth s tk) {S : Node} (ho : ownerOf tk.frames = some S) :
    (∃ rv, tk.st = .runnable rv) ∨ (∃ sub m r d, tk.frames = .dagLaunch sub (m :: r) :: [.switchRet d S]) := by
  cases h with
  | swStart _ _ _ _ _ _ hst => exact Or.inl ⟨_, hst⟩
  | swRet _ _ _ _ _ hst => obtain ⟨v, hv⟩ := hst; exact Or.inl ⟨_, hv⟩
  | swIn _ _ _ _ _ _ hfr hdf _ hst =>
    rw [hfr] at ho
    cases hdf with
    | init => exact Or.inl hst
    | launch _ m r _ _ _ => cases ho; exact Or.inr ⟨_, m, r, _, hfr⟩
    | wait => cases ho
  | main _ _ _ hfr hdf => rw [hfr] at ho; cases hdf <;> cases ho
  | callerStart _ hfr | callerWait _ hfr | mainDone _ hfr | nodeStart _ _ _ _ hfr | nodeWait _ _ _ _ hfr
  | nodeExec _ _ _ _ _ hfr | nodeDone _ _ _ _ hfr | swDone _ _ _ _ hfr => rw [hfr] at ho; cases ho

/-- **a launch loop cannot be blocked in a quiet state** (by induction on the depth of the node it waits for) -/
theorem launcher_absurd (hnh : ∀ n, P.g.isOneofHead n = false) (hac : ∀ e ∈ P.g.edges, depth e.u < depth e.v) {s : St}
    (hs : Struct P depth s) (hq : Still s) (he : taskErrors s = []) :
    ∀ (D : Nat) (i : Nat) (tk : Task) (d : DagRef) (m : Node) (r : List Node) (below : List Frame),
      s.tasks[i]? = some tk → tk.frames = .dagLaunch d (m :: r) :: below → depth m = D → False := by
  intro D
  induction D using Nat.strongRecOn with
  | _ D ih =>
    intro i tk d m r below hi hf hD
    obtain ⟨hdag, hlaunched, hsubset, htopo, hst, _⟩ := launcher_facts (hs.tasks i tk hi) hf
    have hblocked := hst.resolve_left (hq.not_runnable hi)
    -- a launch loop of the sub-DAG of a switch source of `m` waits for a shallower node
    have sub_absurd : ∀ S ∈ basePreds P m, ∀ (i' : Nat) (tk' : Task) (sub : DagRef) (m' : Node) (r' : List Node) (d' : DagRef),
        s.tasks[i']? = some tk' → tk'.frames = .dagLaunch sub (m' :: r') :: [.switchRet d' S] → False := by
      intro S hSm i' tk' sub m' r' d' hi' hfr'
      obtain ⟨_, _, hsub2, _, _, hbelow⟩ := launcher_facts (hs.tasks i' tk' hi') hfr'
      rcases hbelow with h | ⟨d2, S2, h, _, _, hsubok⟩
      · cases h
      · cases h
        have hlt : depth m' < depth m := hsubok.depth_lt hac hs.data hSm (hsub2 m' (by simp))
        exact ih (depth m') (by rw [← hD]; exact hlt) i' tk' sub m' r' _ hi' hfr' rfl
    by_cases hready : ready P s d m = true
    · -- ready after all: the owner is a `_run_switch` task that is runnable or in the launch loop of its sub-DAG
      obtain ⟨S, hS, _, i', tk', h1, _, hfr⟩ := hblocked.2 hready
      rcases swOwner_task (hs.tasks i' tk' h1) (ownerOf_eq_some.mpr hfr) with h | ⟨sub, m', r', d', h⟩
      · exact hq.not_runnable h1 h
      · exact sub_absurd S hS i' tk' sub m' r' d' h1 h
    · -- not ready: some resolved source has no result
      have hnr : ready P s d m = false := by simpa using hready
      rw [ready_eq s (hnh m) hdag.notRec, List.all_eq_false] at hnr
      obtain ⟨u, hu, hpno⟩ := hnr
      have hud : u ∈ d.nodes := hdag.closed m (hsubset m (by simp)) u hu
      have hunot : u ∉ m :: r := htopo [] m r rfl u hu
      have hl := hlaunched u hud hunot
      cases hSu : P.g.isSwitch u with
      | false =>
        have := launched_has_result hs.data hq he hSu hl
        simp only [resolveSw, hSu, Bool.false_eq_true, if_false] at hpno
        simp [this.1, this.2] at hpno
      | true =>
        -- a switch source: look at its `_run_switch` task
        unfold Launched at hl
        simp only [hSu, if_true] at hl
        obtain ⟨i', tk', hi', hname⟩ := hl
        have hres' : ∀ l c, s.sw u = some (l, c) → Launched P s c → False := by
          intro l c hsw hlc
          have := launched_has_result hs.data hq he (hs.data.swEdge u l c hsw).1 hlc
          simp only [resolveSw, hSu, if_true, hsw] at hpno
          simp [this.1, this.2] at hpno
        rcases (hs.tasks i' tk' hi').of_switch hname hSu with
          ⟨_, _, hst⟩ | ⟨F, sub, d0, hfr, hdf, hsub, hst⟩ | ⟨_, _, _, hst, _⟩ | ⟨r0, _, hst, hnc, hok⟩
        · exact hq.not_runnable hi' ⟨_, hst⟩
        · cases hdf with
          | init => exact hq.not_runnable hi' hst
          | launch _ m' rest' _ _ _ => exact sub_absurd u hu i' tk' sub m' rest' d0 hi' hfr
          | wait _ hall =>
            obtain ⟨l, c, hsw, _, hc, _⟩ := hsub.sel
            exact hres' l c hsw (hall c hc)
        · exact hq.not_runnable hi' ⟨_, hst⟩
        · cases r0 with
          | ok => obtain ⟨l, c, h1, h2⟩ := hok rfl; exact hres' l c h1 h2
          | exc e => have := mem_taskErrors_iff.mpr ⟨i', tk', hi', hst⟩; rw [he] at this; cases this
          | cancelled => exact hnc rfl

theorem Struct.live (hnh : ∀ n, P.g.isOneofHead n = false)
    (hac : ∀ e ∈ P.g.edges, depth e.u < depth e.v) (hout : P.g.isSwitch P.g.output = false) {s : St}
    (hs : Struct P depth s) : ∃ (i : Nat) (tk : Task), s.tasks[i]? = some tk ∧ tk.live := by
  apply Classical.byContradiction
  intro hno
  have hq : Still s := fun i tk h hl => hno ⟨i, tk, h, hl⟩
  obtain ⟨tk0, h0, hname⟩ := hs.caller
  rcases (hs.tasks 0 tk0 h0).of_caller hname with ⟨_, hst⟩ | ⟨hfr, hst | ⟨_, herr, hno⟩⟩
  · exact hq.not_runnable h0 hst
  · exact hq.not_runnable h0 hst
  · -- `manager.run` waits: no task has failed, the output has no result
    obtain ⟨tk1, h1, hname1⟩ := hs.main tk0 h0 hfr
    rcases (hs.tasks 1 tk1 h1).of_run hname1 with ⟨F, d0, hfr, hdf, _, _, hout', hst⟩ | ⟨_, _, hres⟩
    · cases hdf with
      | init => exact hq.not_runnable h1 hst
      | launch _ m r _ _ _ => exact launcher_absurd hnh hac hs hq herr (depth m) 1 tk1 d0 m r [] h1 hfr rfl
      | wait _ hall =>
        have := launched_has_result hs.data hq herr hout (hall _ hout')
        simp [St.exists, hno] at this
    · have := launched_has_result hs.data hq herr hout hres
      simp [St.exists, hno] at this

theorem struct_live {P : Program} {depth : Node → Nat} (hp : LiveP P depth) {s : St} (hs : Struct P depth s) :
    ∃ (i : Nat) (tk : Task), s.tasks[i]? = some tk ∧ tk.live :=
  hs.live hp.sw.noHead hp.acyclic hp.outPlain

end MLPE.Eng
