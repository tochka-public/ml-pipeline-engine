import MLPE.Proofs.LiveStep

/-!
# The sections of a node task (`_run_node`) preserve the liveness invariant

The task that executes a node touches the stored data of that node only: `Marked` describes the state in the middle of such
a section, `struct_node_close` closes it; three kinds of ending — the task blocks on the body or a timer
(`struct_node_exec`), waits for the node's event (`struct_node_wait`), leaves `_run_node` (`struct_node_done`).  `NCtx` then
follows the handlers of the model, one lemma per handler, composed the way the handlers call each other.
-/
namespace MLPE.Eng
open MLPE

variable {P : Program} {depth : Node → Nat}

/-! ### sections of a node task -/

/-- `s1` is `s`, except for what the task that executes `q` has done to the entries of `q`: it is marked as processed (by
this section, or before it), and its result may have been stored -/
structure Marked (s s1 : St) (q : Node) : Prop where
  tasks   : s1.tasks = s.tasks
  resHid  : s1.resHid = s.resHid
  sw      : s1.sw = s.sw
  evSet   : s1.evSet = s.evSet
  procHid : ∀ n, s1.procHid n = false
  procq   : s1.proc q = true
  procn   : ∀ n, n ≠ q → s1.proc n = s.proc n
  resn    : ∀ n, n ≠ q → s1.res n = s.res n
  resq    : s1.res q = s.res q ∨ (s.res q = none ∧ ∃ v, s1.res q = some v ∧ v.isRecur = false)

theorem Marked.refl {s : St} (hd : LData P s) {q : Node} (hp : s.proc q = true) : Marked s s q :=
  ⟨rfl, rfl, rfl, rfl, fun n => (hd.noHid n).2, hp, fun _ _ => rfl, fun _ _ => rfl, Or.inl rfl⟩

theorem Marked.setRes {s s1 : St} {q : Node} (m : Marked s s1 q) (hn : s.res q = none) (hh : s.resHid q = false) {v : Val}
    (hv : v.isRecur = false) : Marked s (s1.setRes q v) q := by
  refine ⟨m.tasks, ?_, m.sw, m.evSet, m.procHid, m.procq, m.procn,
    fun n hn' => (upd_other _ _ _ _ hn').trans (m.resn n hn'), Or.inr ⟨hn, v, upd_same .., hv⟩⟩
  funext n
  simp only [St.setRes, upd]
  split
  · next h => rw [h, hh]
  · rw [m.resHid]

/-- the two ways a section of the task that executes `q` begins: it has marked `q` before, or it does so now; in both
`q` has no result yet and nobody else executes it -/
theorem marked_of {s s1 : St} (hd : LData P s) {q : Node} {pc0 : NodePc} (t : Nat)
    (h1 : (s1 = s ∧ pc0.exec = true ∧ s.proc q = true ∧ s.res q = none) ∨
          (s1 = s.markProcessed q ∧ pc0 = .start ∧ s.procExists q = false)) :
    Ext t s s1 ∧ Marked s s1 q ∧ s1.res = s.res ∧ s.res q = none ∧ (pc0.exec = true ∨ s.procExists q = false) := by
  rcases h1 with ⟨rfl, hx, hp, hn⟩ | ⟨rfl, _, hx⟩
  · exact ⟨.refl t s1, .refl hd hp, rfl, hn, Or.inl hx⟩
  · refine ⟨.markProcessed s q, ⟨rfl, rfl, rfl, rfl, fun n => upd_of_eq (hd.noHid n).2 q, upd_same ..,
      fun _ hn => upd_other _ _ _ _ hn, fun _ _ => rfl, Or.inl rfl⟩, rfl, ?_, Or.inr hx⟩
    cases hr : s.res q with
    | none => rfl
    | some v =>
      have := hd.c6 q (by rw [hr]; rfl)
      simp [St.procExists, this, (hd.noHid q).2] at hx

/-- **closing a section of the task that executes `q`** (or starts to): it has changed the entries of `q` at most (`s0`),
then notified some conditions and possibly set the event of `q`, has created no task, and leaves the entry `tk'`.  It owes
the storage clauses of `q`, the description of `tk'`, and the two wake-ups that a stored result makes necessary: `run()`,
and the launch loops that wait for a consumer of `q`. -/
theorem struct_node_close {s s0 s1 : St} (hs : Struct P depth s)
    {t : Nat} {tkt tk' : Task} (htkt : s.tasks[t]? = some tkt) {d : DagRef} {q : Node} {pc0 : NodePc}
    (hnm : tkt.name = .node q) (hf0 : tkt.frames = [.node d q false pc0]) (hrt : ∃ rv, tkt.st = .runnable rv)
    (e0 : Ext t s s0) (m : Marked s s0 q) (hex0 : s0.res q = s.res q ∨ pc0.exec = true ∨ s.procExists q = false)
    {ks : List Key} {evs : List Node} (hs1 : s1 = s0.woken ks evs) (hevs : ∀ n ∈ evs, n = q)
    (hnm' : tk'.name = tkt.name) (hmc' : tk'.mustCancel = false)
    (hself : TaskOK P depth (s1.setTask t tk') tk') (hq : LNode P (s1.setTask t tk') q)
    (hex : ∀ d1 q1 f1 pc1, tk'.frames = [.node d1 q1 f1 pc1] → pc1.exec = true →
      q1 = q ∧ (pc0.exec = true ∨ s.procExists q = false))
    (hrun : taskErrors s = [] → s.res P.g.output = none →
      (taskErrors (s1.setTask t tk') = [] ∧ s1.res P.g.output = none) ∨ NoneBlocked s1 (.cond .run))
    (hwake : s1.res q = s.res q ∨ (SwP P ∧ ∀ m ∈ P.g.desc1 q, NoneBlocked s1 (.cond (.node m)))) :
    Struct P depth (s1.setTask t tk') := by
  subst hs1
  have hd := hs.data
  have hnc := ne_caller hnm
  have e : Ext t s (s0.woken ks evs) :=
    e0.trans (Ext.woken _ _ (runnable_at (m.tasks ▸ htkt) hrt))
  have hlen : (s0.woken ks evs).tasks.length = s.tasks.length := by simp [St.woken, m.tasks]
  have hresn : ∀ n, n ≠ q → s0.res n = s.res n := m.resn
  have hresq : s0.res q = s.res q ∨ (s.res q = none ∧ (pc0.exec = true ∨ s.procExists q = false)) := by
    rcases m.resq with h | ⟨h, _⟩
    · exact Or.inl h
    · exact hex0.imp id (fun hx => ⟨h, hx⟩)
  refine Struct.close_ext hs ⟨tkt, htkt, hnm'⟩ e ?_ hself ?_ hrun ?_ ?_
    (fun h0 => absurd h0 (hs.ne_zero htkt hnc)) (no_new_task hlen)
  · refine hd.grow e htkt hrt hmc' (· = q) m.resHid m.procHid (fun n hn => ⟨m.resn n hn, m.procn n hn, ?_⟩) ?_ ?_
      (fun S l c h => Or.inl (m.sw ▸ h)) ?_ (no_new_task hlen)
    · have : n ∉ evs := fun h => hn (hevs n h)
      simp [St.woken, this, m.evSet]
    · intro n hn
      subst hn
      exact ⟨hq, hresq.imp id (fun h => h.1)⟩
    · intro d' n f pc hf _
      rw [hf0] at hf; cases hf; rfl
    · intro d1 q1 f1 pc1 hfr hpc1 j tj d2 f2 p2 hjt hj hfj hp2
      obtain ⟨rfl, h⟩ := hex d1 q1 f1 pc1 hfr hpc1
      exact no_other_executor hs htkt hf0 h j tj d2 f2 p2 hjt hj hfj hp2
  · intro q' hl
    refine hl.close e htkt hnm' ?_
    intro d' hf'
    rw [hf0] at hf'; cases hf'; exact m.procq
  · intro i tki d' m' hit hi hrec hb hrd hold
    by_cases hrd' : ready P s d' m' = true
    · obtain ⟨S, hS, hSs, ho⟩ := hold hrd'
      refine ⟨S, hS, hSs, ho.close e htkt (fun hfr => ?_)⟩
      rw [hf0] at hfr; cases hfr
    · -- `m'` has become ready through the result of `q`: its condition has just been notified
      exfalso
      rcases hwake with h | h
      · have : s0.res = s.res := by
          funext n
          by_cases hn : n = q
          · rw [hn]; exact h
          · exact hresn n hn
        rw [ready_congr (s' := s0.woken ks evs) this m.resHid m.sw] at hrd
        exact hrd' hrd
      · exact h.2 m' (ready_flip (s0 := s0.woken ks evs) h.1 hd m.sw m.resHid hresn hrec hrd (by simpa using hrd')) tki
          (List.mem_of_getElem? hi) hb
  · intro i tk d' q' pc hit hi hf hp1 hp2 hn
    by_cases hq' : q' = q
    · subst hq'
      rcases hresq with h | ⟨_, h⟩
      · exact h.trans hn
      · exact (no_other_executor hs htkt hf0 h i tk d' false pc hit hi hf (NodePc.exec_of_ne hp1 hp2)).elim
    · exact (hresn q' hq').trans hn

/-- a node task blocks on its body / its retry timer (or yields before the next attempt): `s1` is `s`, possibly with the
node marked as processed -/
theorem struct_node_exec {P : Program} {depth : Node → Nat} {s s1 : St} (hs : Struct P depth s) {t : Nat} {tkt : Task}
    (htkt : s.tasks[t]? = some tkt) {d : DagRef} {q : Node} {pc0 pc' : NodePc} (hnm : tkt.name = .node q)
    (hns : P.g.isSwitch q = false) (hf0 : tkt.frames = [.node d q false pc0]) (hrt : ∃ rv, tkt.st = .runnable rv)
    (hmc : tkt.mustCancel = false)
    (h1 : (s1 = s ∧ pc0.exec = true ∧ s.proc q = true ∧ s.res q = none) ∨
          (s1 = s.markProcessed q ∧ pc0 = .start ∧ s.procExists q = false))
    (hpc' : pc'.exec = true) (hrs' : pc'.rests = true) (st' : TaskSt)
    (hlive : ({ tkt with frames := [.node d q false pc'], st := st' } : Task).live) :
    Struct P depth (s1.setTask t { tkt with frames := [.node d q false pc'], st := st' }) := by
  have hd := hs.data
  obtain ⟨e, m, hres, hresq, hex⟩ := marked_of hd t h1
  have hnores : s1.res q = none := by rw [hres]; exact hresq
  refine struct_node_close hs htkt hnm hf0 hrt e m (Or.inl (by rw [hres])) (woken_nil s1).symm (fun _ h => nomatch h) rfl hmc ?_ ?_ ?_ ?_
    (Or.inl (by rw [hres]))
  · exact .nodeExec _ d q pc' hnm hns rfl (by intro h; subst h; cases hpc') (by intro h; subst h; cases hpc') hlive m.procq
      hnores hrs'
  · -- the clauses of `q`: it has no result and this task executes it
    have hno : ¬ (s1.res q).isSome = true := by rw [hnores]; exact nofun
    refine ⟨fun v (h : s1.res q = some v) => absurd (by rw [h]; rfl) hno,
      fun _ => Or.inr ⟨t, _, e.closed_self htkt, hlive, d, false, pc', rfl, hpc'⟩, fun h => ?_,
      fun h => absurd h hno, fun h => absurd h hno, fun _ => hns⟩
    rcases hd.c4 q (by rw [← m.evSet]; exact h) with h' | h'
    · rw [hresq] at h'; cases h'
    · exact Or.inr (taskErrors_close_mono e htkt hrt h')
  · intro d1 q1 f1 pc1 hfr _
    cases hfr
    exact ⟨rfl, hex⟩
  · intro he0 hr0
    refine Or.inl ⟨taskErrors_close_nil e he0 ?_ (no_new_task (by rw [m.tasks])), by
      rw [hres]; exact hr0⟩
    intro x hx
    rcases hlive with ⟨rv, hr⟩ | ⟨n, i, a, o, hr⟩ | ⟨n, i, a, dl, hr⟩ <;> simp only [] at hr <;> rw [hr] at hx <;> cases hx

/-- a node task finds its node being executed by somebody else and waits for the node's event -/
theorem struct_node_wait {s : St} (hs : Struct P depth s) {t : Nat} {tkt : Task}
    (htkt : s.tasks[t]? = some tkt) {d : DagRef} {q : Node} (hnm : tkt.name = .node q)
    (hns : P.g.isSwitch q = false) (hf0 : tkt.frames = [.node d q false .start]) (hrt : ∃ rv, tkt.st = .runnable rv)
    (hpq : s.proc q = true) :
    Struct P depth (s.setTask t { tkt with frames := [.node d q false .evWait], st := .blocked (.event q) }) := by
  have hmc := hs.noCancel htkt
  refine Struct.close_same hs htkt rfl hrt (fun h => absurd h (hs.ne_zero htkt (ne_caller hnm))) (Ext.refl t s) rfl rfl rfl rfl
    rfl rfl hmc ?_ ?_ (Or.inl (fun x hx => by cases hx)) (.nodeWait _ d q hnm hns rfl (Or.inr rfl) hpq) ?_ (no_new_task (by rfl))
  · intro d' n f pc hf
    rw [hf0] at hf; cases hf
    exact ⟨rfl, hpq⟩
  · intro d' n f pc hf
    cases hf; rfl
  · intro S hfr
    rw [hf0] at hfr; cases hfr

/-- **a node task leaves `_run_node`**: `s0` is the state before the `finally` — `s`, possibly with the node marked as
processed and / or its result stored — and the task ends with `r` -/
theorem struct_node_done (hp : LiveP P depth) {s s0 : St} (hs : Struct P depth s)
    {t : Nat} {tkt : Task} (htkt : s.tasks[t]? = some tkt) {d : DagRef} {q : Node} {pc0 : NodePc}
    (hnm : tkt.name = .node q) (hns : P.g.isSwitch q = false) (hf0 : tkt.frames = [.node d q false pc0])
    (hrt : ∃ rv, tkt.st = .runnable rv) (e0 : Ext t s s0) (m : Marked s s0 q)
    (hex : s0.res q = s.res q ∨ pc0.exec = true ∨ s.procExists q = false)
    (r : TaskRes) (hr : (∃ x, r = .exc x) ∨ (r = .ok ∧ ((s0.res q).isSome = true ∨ s.evSet q = true))) :
    Struct P depth ((nodeFinally P s0 d q true).setTask t { tkt with frames := [], st := .done r, mustCancel := false }) := by
  have hd := hs.data
  obtain ⟨_, w2, w3, _⟩ := nodeFinally_wakes P s0 d q
  -- the `finally` wakes tasks and sets the event of `q`; every other field is that of `s0`
  have hF : nodeFinally P s0 d q true = s0.woken (finallyKeys P q) [q] := nodeFinally_eq P s0 d q true
  rw [hF] at w2 w3 ⊢
  have e : Ext t s (s0.woken (finallyKeys P q) [q]) :=
    e0.trans (Ext.woken _ _ (runnable_at (m.tasks ▸ htkt) hrt))
  have hevq : (s0.woken (finallyKeys P q) [q]).evSet q = true := by simp [St.woken]
  have hpq : s0.proc q = true := m.procq
  refine struct_node_close hs htkt hnm hf0 hrt e0 m hex rfl (fun n hn => List.mem_singleton.mp hn) rfl rfl ?_ ?_
    (fun d1 q1 f1' pc1 hfr => by cases hfr) (fun _ _ => Or.inr w2) (Or.inr ⟨hp.sw, w3⟩)
  · refine .nodeDone _ q r hnm hns rfl rfl ?_ hevq
    rcases hr with ⟨x, rfl⟩ | ⟨rfl, _⟩ <;> intro h <;> cases h
  · -- the clauses of `q`: it has just been announced
    refine ⟨fun v (h : s0.res q = some v) => ?_, fun _ => Or.inl hevq, fun _ => ?_, fun _ => hevq, fun _ => hpq, fun _ => hns⟩
    · rcases m.resq with h' | ⟨_, w, h', hw⟩
      · exact hd.noRec q v (by rw [← h']; exact h)
      · rw [h'] at h; cases h; exact hw
    · show (s0.res q).isSome = true ∨ _
      rcases hr with ⟨x, rfl⟩ | ⟨_, h' | h'⟩
      · exact Or.inr (List.ne_nil_of_mem (mem_taskErrors_iff.mpr ⟨t, _, e.closed_self htkt, rfl⟩))
      · exact Or.inl h'
      · rcases hd.c4 q h' with h'' | h''
        · left
          rcases m.resq with h3 | ⟨h3, _⟩
          · rw [h3]; exact h''
          · rw [h3] at h''; cases h''
        · exact Or.inr (taskErrors_close_mono e htkt hrt h'')

/-! ### the sections of `_run_node` -/

/-- a section of the node task `c.t` of `q`, begun in state `s` at `pc0`; `s1` is `s`, or `s` with `q` just marked as
processed -/
structure NCtx (P : Program) (depth : Node → Nat) (c : Ctx) (s s1 : St) (tkt : Task) (d : DagRef) (q : Node)
    (pc0 : NodePc) : Prop where
  hp   : LiveP P depth
  hcP  : c.P = P
  hs   : Struct P depth s
  htkt : s.tasks[c.t]? = some tkt
  hnm  : tkt.name = .node q
  hns  : P.g.isSwitch q = false
  hf0  : tkt.frames = [.node d q false pc0]
  hrt  : ∃ rv, tkt.st = .runnable rv
  st   : (s1 = s ∧ pc0.exec = true ∧ s.proc q = true ∧ s.res q = none) ∨
         (s1 = s.markProcessed q ∧ pc0 = .start ∧ s.procExists q = false)

section
variable {c : Ctx} {s s1 : St} {tkt : Task} {d : DagRef} {q : Node} {pc0 : NodePc}

theorem NCtx.exec (x : NCtx P depth c s s1 tkt d q pc0) (pc' : NodePc) (hpc' : pc'.exec = true) (hrs' : pc'.rests = true) (st' : TaskSt)
    (hlive : ({ tkt with frames := [.node d q false pc'], st := st' } : Task).live) :
    Struct P depth (s1.setTask c.t { tkt with frames := [.node d q false pc'], st := st' }) :=
  struct_node_exec x.hs x.htkt x.hnm x.hns x.hf0 x.hrt (x.hs.noCancel x.htkt) x.st hpc' hrs' st' hlive

theorem NCtx.done (x : NCtx P depth c s s1 tkt d q pc0) (s0 : St) (hs0 : s0 = s1 ∨ ∃ v, s0 = s1.setRes q v ∧ v.isRecur = false)
    (r : TaskRes) (hr : (∃ e, r = .exc e) ∨ (r = .ok ∧ (s0.res q).isSome = true)) (obs : List Obs) :
    Struct P depth (endTask c (nodeFinally P s0 d q true) obs r).1 := by
  obtain ⟨e, m, hres, hnone, hex⟩ := marked_of x.hs.data c.t x.st
  obtain ⟨e0, m0, hex0⟩ : Ext c.t s s0 ∧ Marked s s0 q ∧ (s0.res q = s.res q ∨ pc0.exec = true ∨ s.procExists q = false) := by
    rcases hs0 with rfl | ⟨v, rfl, hv⟩
    · exact ⟨e, m, Or.inl (by rw [hres])⟩
    · exact ⟨e.trans (.setRes s1 q v (by rw [hres]; exact hnone)), m.setRes hnone (x.hs.data.noHid q).1 hv, Or.inr hex⟩
  rw [endTask_fst (nodeFinally_self P d q true (by rw [m0.tasks]; exact x.htkt) x.hrt)]
  exact struct_node_done x.hp x.hs x.htkt x.hnm x.hns x.hf0 x.hrt e0 m0 hex0 r (hr.imp id (fun h => ⟨h.1, Or.inl h.2⟩))

theorem NCtx.self1 (x : NCtx P depth c s s1 tkt d q pc0) : s1.tasks[c.t]? = some tkt := by
  rcases x.st with ⟨h, _⟩ | ⟨h, _⟩ <;> rw [h] <;> exact x.htkt

theorem NCtx.noYield (x : NCtx P depth c s s1 tkt d q pc0) : ∀ cb n, c.P.cbYield cb n = 0 := by
  rw [x.hcP]; exact x.hp.noYield

theorem NCtx.raise (x : NCtx P depth c s s1 tkt d q pc0) (s0 : St)
    (hs0 : s0 = s1 ∨ ∃ v, s0 = s1.setRes q v ∧ v.isRecur = false) (e : Exc) (obs : List Obs) :
    Struct P depth (raiseOut c (nodeFinally c.P s0 d q true) obs [] (.exc e)).1 := by
  rw [raiseOut_nil, x.hcP]
  exact x.done s0 hs0 (.exc e) (Or.inl ⟨e, rfl⟩) obs

theorem NCtx.cbRaise (x : NCtx P depth c s s1 tkt d q pc0) (s0 : St)
    (hs0 : s0 = s1 ∨ ∃ v, s0 = s1.setRes q v ∧ v.isRecur = false) (e : Exc) (obs : List Obs) :
    Struct P depth (nodeCbRaise c s0 obs d q [] e).1 := x.raise s0 hs0 e obs

theorem NCtx.cbRaiseInTry (x : NCtx P depth c s s1 tkt d q pc0) (e : Exc) (obs : List Obs) :
    Struct P depth (nodeCbRaiseInTry c s1 obs d q [] e).1 := x.raise s1 (Or.inl rfl) e _

theorem NCtx.finish (x : NCtx P depth c s s1 tkt d q pc0) (v : Val) (hv : v.isRecur = false) (obs : List Obs) :
    Struct P depth (retTo c (nodeFinally c.P (s1.setRes q v) d q true) obs [] .none).1 := by
  unfold retTo
  simp only []
  rw [x.hcP]
  exact x.done _ (Or.inr ⟨v, rfl, hv⟩) .ok (Or.inr ⟨rfl, by simp [St.setRes, upd]⟩) obs

theorem NCtx.post (x : NCtx P depth c s s1 tkt d q pc0) (v : Val) (hv : v.isRecur = false) (obs : List Obs) :
    Struct P depth (nodePost c s1 obs d q [] v true).1 := by
  unfold nodePost
  simp only [hv, recSpawn, recSpawns, storeIf, if_true, Bool.not_false, Bool.true_and]
  split
  · rw [cbCall_noYield c x.noYield]
    split
    · exact x.cbRaise _ (Or.inr ⟨v, rfl, hv⟩) _ _
    · exact x.finish v hv _
  · exact x.finish v hv _

theorem NCtx.failCont (x : NCtx P depth c s s1 tkt d q pc0) (e : Exc) (obs : List Obs) :
    Struct P depth (nodeFailCont c s1 obs d q [] e).1 := by
  unfold nodeFailCont
  split
  · exact x.post (.exc e) rfl obs
  · exact x.raise s1 (Or.inl rfl) e obs

theorem NCtx.fail (x : NCtx P depth c s s1 tkt d q pc0) (e : Exc) (obs : List Obs) :
    Struct P depth (nodeFail c s1 obs d q [] e).1 := by
  unfold nodeFail
  rw [cbCall_noYield c x.noYield]
  split
  · exact x.cbRaise s1 (Or.inl rfl) _ _
  · exact x.failCont e _

theorem NCtx.success (x : NCtx P depth c s s1 tkt d q pc0) (v : Val) (hv : v.isRecur = false) (obs : List Obs) :
    Struct P depth (nodeSuccess c s1 obs d q [] v).1 := by
  unfold nodeSuccess
  rw [cbCall_noYield c x.noYield]
  split
  · exact x.cbRaiseInTry _ _
  · exact x.post v hv _

theorem NCtx.dflt (x : NCtx P depth c s s1 tkt d q pc0) (kw : Kwargs) (obs : List Obs) :
    Struct P depth (nodeDefault c s1 obs d q [] kw).1 := by
  rw [nodeDefault_of_none _ _ _ _ _ _ _ (by rw [x.hcP]; exact x.hp.sw.dfltOk _)]
  refine x.success _ ?_ _
  rw [x.hcP]
  exact (x.hp.sw.noRecurD q kw).1

theorem NCtx.sleep (x : NCtx P depth c s s1 tkt d q pc0) (k : Nat) (kw : Kwargs) (inv : Nat) (obs : List Obs) :
    Struct P depth (nodeSleep c s1 obs d q false [] k kw inv).1 := by
  unfold nodeSleep
  simp only []
  split
  · rw [block_fst x.self1]
    exact x.exec (.sleep k kw inv) rfl rfl _ (Or.inr (Or.inr ⟨_, _, _, _, rfl⟩))
  · rw [yieldNow_fst x.self1]
    exact x.exec (.sleep k kw inv) rfl rfl _ (Or.inl ⟨_, rfl⟩)

theorem NCtx.afterBody (x : NCtx P depth c s s1 tkt d q pc0) (k : Nat) (kw : Kwargs) (inv : Nat) (obs : List Obs) :
    Struct P depth (nodeAfterBody c s1 obs d q false [] k kw inv (c.P.body q kw inv k)).1 := by
  cases hb : c.P.body q kw inv k with
  | ret v => exact x.success v (x.hp.sw.noRecur q kw inv k v (x.hcP ▸ hb)).1 obs
  | raise e =>
    rw [Retry.nodeAfterBody_raise]
    split
    · rw [cbCall_noYield c x.noYield]
      split
      · exact x.cbRaiseInTry _ _
      · exact x.sleep k kw inv _
    · next v hd => exact absurd hd (Retry.decide_raise_ne_value _ _ _ _)
    · exact x.dflt kw obs
    · split
      · exact x.fail _ obs
      · exact x.raise s1 (Or.inl rfl) _ obs

theorem NCtx.attempt (x : NCtx P depth c s s1 tkt d q pc0) (k : Nat) (kw : Kwargs) (inv : Nat) (obs : List Obs) :
    Struct P depth (nodeAttempt c s1 obs d q false [] k kw inv).1 := by
  unfold nodeAttempt
  simp only [Bool.false_eq_true, if_false]
  split
  · exact x.afterBody k kw inv _
  · rw [block_fst x.self1]
    exact x.exec (.body k kw inv) rfl rfl _ (Or.inr (Or.inl ⟨_, _, _, _, rfl⟩))

theorem NCtx.begin (x : NCtx P depth c s s1 tkt d q pc0) (inv : Nat) (obs : List Obs) :
    Struct P depth (nodeBegin c s1 obs d q false [] inv).1 := by
  unfold nodeBegin
  split
  · exact x.fail _ obs
  · exact x.attempt 1 _ inv obs
end

/-- a node task finds its node done by somebody else (at once, or after waiting for the node's event): it announces the
node again and returns -/
theorem struct_node_read (hp : LiveP P depth) (c : Ctx) (hcP : c.P = P) {s : St}
    (hs : Struct P depth s) {tkt : Task} (htkt : s.tasks[c.t]? = some tkt) {d : DagRef} {q : Node} {pc0 : NodePc}
    (hnm : tkt.name = .node q) (hns : P.g.isSwitch q = false) (hf0 : tkt.frames = [.node d q false pc0])
    (hrt : ∃ rv, tkt.st = .runnable rv) (hpq : s.proc q = true) (hev : s.evSet q = true) (obs : List Obs) :
    Struct P depth (nodePost c s obs d q [] (s.get q) false).1 := by
  rw [nodePost_read _ _ _ _ _ _ (get_notRecur hs.data.noRec q), nodeFinish, retTo,
    endTask_fst (nodeFinally_self c.P d q true htkt hrt), hcP]
  exact struct_node_done hp hs htkt hnm hns hf0 hrt (.refl c.t s) (.refl hs.data hpq) (Or.inl rfl) .ok (Or.inr ⟨rfl, Or.inr hev⟩)

theorem struct_nodeStart (hp : LiveP P depth) (c : Ctx) (hcP : c.P = P) {s : St}
    (hs : Struct P depth s) {tkt : Task} (htkt : s.tasks[c.t]? = some tkt) {d : DagRef} {q : Node}
    (hnm : tkt.name = .node q) (hns : P.g.isSwitch q = false) (hf0 : tkt.frames = [.node d q false .start])
    (hrt : ∃ rv, tkt.st = .runnable rv) (obs : List Obs) :
    Struct P depth (nodeStart c s obs d q false []).1 := by
  unfold nodeStart
  split
  · next hpe =>
    have hpq : s.proc q = true := by simp only [St.procExists, Bool.and_eq_true] at hpe; exact hpe.1
    split
    · next hev => exact struct_node_read hp c hcP hs htkt hnm hns hf0 hrt hpq hev obs
    · rw [block_fst htkt]
      exact struct_node_wait hs htkt hnm hns hf0 hrt hpq
  · next hpe =>
    have x : NCtx P depth c s (s.markProcessed q) tkt d q .start :=
      ⟨hp, hcP, hs, htkt, hnm, hns, hf0, hrt, Or.inr ⟨rfl, rfl, by simpa using hpe⟩⟩
    simp only []
    rw [cbCall_noYield c x.noYield]
    split
    · exact x.cbRaise _ (Or.inl rfl) _ _
    · exact x.begin _ _

end MLPE.Eng
