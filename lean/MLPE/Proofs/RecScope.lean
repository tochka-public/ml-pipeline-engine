import MLPE.Proofs.Acts

/-!
# Only the nodes of a recurrent subgraph are ever hidden — all programs, all schedules

`St.hide` (`hide_last_execution`) is the only way a node can be executed again (C04: executions ≤ 1 + hides).  This file
shows *to which nodes* it is applied.  `_run_recurrent_subgraph` only marks, before every iteration, the nodes between `start`
and `dest` of its `RecurrentSubGraph` mark (`St.invalidate`, the list `stale`); a DAG that is about to run hides those of its
nodes that are marked (`St.refresh`), and a destination is hidden before its forced default.  The invariant `RX` carries it:
every marked node and every hidden node lies in the scope of a mark (`InRecScope`), and every `.recIterRet … n start …` frame
belongs to a mark (`start` is the start node declared for `n`).  It is kept by every action of a section
(`Proofs/Acts.lean`).  No hypothesis on the program.
-/
namespace MLPE.Eng
open MLPE

/-- `n` is a node of the recurrent subgraph `start → dst` of some `RecurrentSubGraph` mark, or such a destination itself -/
def InRecScope (P : Program) (n : Node) : Prop :=
  (∃ dst start io g, (P.g.attr dst).startNode = some start ∧ recGraph P start dst io = some g ∧ n ∈ g.nodes) ∨
  (P.g.attr n).startNode.isSome = true

def RecFrameOK (P : Program) : Frame → Prop
  | .recIterRet _ n start _ _ => (P.g.attr n).startNode = some start
  | _ => True

def RFramesOK (P : Program) (fs : List Frame) : Prop := ∀ f ∈ fs, RecFrameOK P f

def HidOK (P : Program) (s : St) : Prop := ∀ n, 0 < s.hideCount n → s.badOrd = true ∨ InRecScope P n

structure RX (P : Program) (ex : Option Nat) (s : St) : Prop where
  hid : HidOK P s
  frames : ∀ (i : Nat) (tk : Task), s.tasks[i]? = some tk → some i ≠ ex → RFramesOK P tk.frames
  stale : ∀ n ∈ s.stale, InRecScope P n

theorem RX.of_frames {P : Program} {ex ex' : Option Nat} {s s' : St} (h : RX P ex s) (h0 : s'.stale = s.stale)
    (h1 : s'.hideCount = s.hideCount) (h2 : s.badOrd = true → s'.badOrd = true)
    (h3 : FramesAll (RecFrameOK P) ex' s') : RX P ex' s' :=
  ⟨fun n hn => (h.hid n (h1 ▸ hn)).imp h2 id, h3, h0 ▸ h.stale⟩

theorem RX.resched {P : Program} {ex : Option Nat} {s s' : St} (h : RX P ex s) (r : Resched s s') : RX P ex s' :=
  h.of_frames (by rw [r.data]) (by rw [r.data]) (by rw [r.data]; exact id) (FramesAll.resched h.frames r)

theorem RX.silent {P : Program} {ex : Option Nat} {s s' : St} (h : RX P ex s) (e : Silent s s') : RX P ex s' :=
  h.of_frames e.stale (congrArg Core.hideCount e.core) e.bad (FramesAll.tasks_eq h.frames e.tasks)

theorem RX.notify {P : Program} {ex : Option Nat} {s : St} (h : RX P ex s) (k : Key) : RX P ex (notify s k) :=
  h.resched (.notify s k)
theorem RX.cancelTasks {P : Program} {ex : Option Nat} (ts : List Nat) : ∀ {s : St}, RX P ex s → RX P ex (cancelTasks s ts) :=
  fun h => h.resched (.cancelTasks ts _)
theorem RX.setRes {P : Program} {ex : Option Nat} {s : St} (h : RX P ex s) (n : Node) (v : Val) : RX P ex (s.setRes n v) :=
  h.silent (.setRes ..)
theorem RX.markProcessed {P : Program} {ex : Option Nat} {s : St} (h : RX P ex s) (n : Node) :
    RX P ex (s.markProcessed n) :=
  h.of_frames rfl rfl id h.frames

theorem RX.hide {P : Program} {ex : Option Nat} {s : St} (h : RX P ex s) (ns : List Node)
    (hns : s.badOrd = true ∨ ∀ n ∈ ns, InRecScope P n) : RX P ex (s.hide ns) := by
  refine ⟨?_, h.frames, h.stale⟩
  intro n hn
  show s.badOrd = true ∨ _
  simp only [St.hide] at hn
  split at hn
  · next hc => exact hns.imp id (fun hall => hall n (by simpa using hc))
  · exact h.hid n hn

theorem RX.invalidate {P : Program} {ex : Option Nat} {s : St} (h : RX P ex s) (ns : List Node)
    (hns : ∀ n ∈ ns, InRecScope P n) : RX P ex (s.invalidate ns) :=
  ⟨h.hid, h.frames, fun n hn => (List.mem_append.mp hn).elim (hns n) (h.stale n)⟩

theorem RX.refresh {P : Program} {ex : Option Nat} {s : St} (h : RX P ex s) (ns : List Node) : RX P ex (s.refresh ns) := by
  rw [refresh_eq]
  have h1 := h.hide (ns.filter s.stale.contains) (Or.inr fun n hn => h.stale n (by simpa using (List.mem_filter.mp hn).2))
  exact ⟨h1.hid, h1.frames, fun n hn => h.stale n (List.mem_filter.mp hn).1⟩

/-- the DAG is the subgraph of a `RecurrentSubGraph` mark -/
def RecD (P : Program) (d : DagRef) : Prop :=
  ∃ dst start io, (P.g.attr dst).startNode = some start ∧ recGraph P start dst io = some d

theorem validOrder_sub' {P : Program} {s : St} {d : DagRef} {ord : List Node} (h : validOrder P s d ord = true) :
    ∀ n ∈ ord, n ∈ d.nodes :=
  validOrder_sub h

theorem reducedRef_notRec {P : Program} {s : St} {a b : Node} {f2 f3 : Bool} {d : DagRef}
    (h : reducedRef P s a b false f2 f3 = some d) : d.isRec = false := by
  rcases reducedRef_cases h with ⟨_, _, rfl⟩ | ⟨_, _, rfl⟩ <;> rfl

theorem recScopeNodes_inScope {P : Program} {n start : Node} (hs : (P.g.attr n).startNode = some start) (io : Bool) :
    ∀ m ∈ recScopeNodes P start n io, InRecScope P m := by
  intro m hm
  unfold recScopeNodes at hm
  split at hm
  · next b hb => exact Or.inl ⟨n, start, io, b, hs, hb, hm⟩
  · cases hm

def RXq (c : Ctx) (x : Conf) : Prop := RX c.P (some c.t) x.s ∧ RFramesOK c.P x.fs

theorem rxq_act {c : Ctx} {x y : Conf} (a : Act c x y) (h : RXq c x) : RXq c y := by
  obtain ⟨hx, hf⟩ := h
  have tl : ∀ {f fs}, RFramesOK c.P (f :: fs) → RFramesOK c.P fs := fun h g hg => h g (List.mem_cons_of_mem _ hg)
  have cons : ∀ {f fs}, RecFrameOK c.P f → RFramesOK c.P fs → RFramesOK c.P (f :: fs) :=
    fun h0 h g hg => (List.mem_cons.mp hg).elim (fun e => e ▸ h0) (h g)
  have scope : ∀ {n start}, (c.P.g.attr n).startNode = some start → ∀ m ∈ [n], InRecScope c.P m :=
    fun hs m hm => Or.inr (by rw [List.mem_singleton.mp hm, hs]; rfl)
  cases a with
  | resched r => exact ⟨hx.resched r, hf⟩
  | silent e => exact ⟨hx.silent e, hf⟩
  | spawn fr nm hfr =>
    refine ⟨hx.of_frames rfl rfl id (FramesAll.spawn hx.frames (fun f hm => ?_) nm), hf⟩
    cases List.mem_singleton.mp hm
    cases fr <;> first | trivial | cases hfr
  | push f hin => exact ⟨hx, cons (by cases f <;> first | trivial | cases hin) hf⟩
  | refresh ns => exact ⟨hx.refresh ns, hf⟩
  | iterFirst io hs => exact ⟨hx.invalidate _ (recScopeNodes_inScope hs io), cons hs hf⟩
  | iterNext io =>
    have hs := hf _ (List.mem_cons_self ..)
    exact ⟨hx.invalidate _ (recScopeNodes_inScope hs io), cons hs (tl hf)⟩
  | forcedFirst hs _ => exact ⟨hx.hide _ (Or.inr (scope hs)), cons trivial (cons trivial hf)⟩
  | forcedNext _ =>
    exact ⟨hx.hide _ (Or.inr (scope (hf _ (List.mem_cons_self ..)))), cons trivial (cons trivial (tl hf))⟩
  | nodeStart _ => exact ⟨hx.markProcessed _, cons trivial (tl hf)⟩
  | pop => exact ⟨hx, tl hf⟩
  | emit => exact ⟨hx, hf⟩
  | nodeWait | nodeCb | nodeArgs | nodeNext | nodeCall | nodeRetry | nodeSleep | nodeDflt | nodeOk | nodeFail | nodeSave =>
    exact ⟨hx, cons trivial (tl hf)⟩

theorem rxq_callerAct {c : Ctx} {x y : Conf} (a : CallerAct c x y) (h : RXq c x) : RXq c y := by
  cases a with
  | engine a => exact rxq_act a h
  | again => exact h
  | _ => exact ⟨h.1, fun f hf => by cases List.mem_singleton.mp hf; trivial⟩

theorem rx_stepTask {c : Ctx} {s : St} (h : RX c.P none s) {out : Out} (hs : stepTask c s = some out) :
    RX c.P none out.1 := by
  obtain ⟨tk, htk, hr⟩ := stepTask_runs hs
  refine hr.post (Q := RXq c) (Post := fun out => RX c.P none out.1) (fun _ _ => rxq_callerAct) (fun s obs fs st hq => ?_)
    (fun _ _ ho => ho.silent ⟨rfl, rfl, rfl, id⟩)
    ⟨h.of_frames rfl rfl id (FramesAll.open h.frames c.t), h.frames c.t tk htk (by simp)⟩
  exact hq.1.of_frames (by rw [finish_data]) (by rw [finish_data]) (by rw [finish_data]; exact id)
    (FramesAll.finish hq.1.frames hq.2 obs st)

theorem rx_init (P : Program) : RX P none init := by
  refine ⟨fun _ hn => absurd hn (Nat.lt_irrefl 0), fun i tk hi _ f hf => ?_, fun _ hn => nomatch hn⟩
  match i, hi with
  | 0, hi => cases hi; cases List.mem_singleton.mp hf; trivial

theorem rx_reach {P : Program} {s : St} (h : Reach P s) : RX P none s := by
  induction h with
  | init => exact rx_init P
  | step _ hs ih =>
    rcases step_cases hs with ⟨t, ord, pick, -, hst⟩ | ⟨hr, -⟩
    · exact rx_stepTask (c := { P := _, t := t, ord := ord, pick := pick }) ih hst
    · exact ih.resched hr

/-- **only the nodes of a recurrent subgraph are ever hidden** (`hide_last_execution`), in every reachable state of every
program (unless the scheduler proposed an inadmissible launch order, which the lock-step tie reports) -/
theorem hidden_in_rec_scope {P : Program} {s : St} (h : Reach P s) (n : Node) (hn : 0 < s.hideCount n) :
    s.badOrd = true ∨ InRecScope P n :=
  (rx_reach h).hid n hn

end MLPE.Eng
