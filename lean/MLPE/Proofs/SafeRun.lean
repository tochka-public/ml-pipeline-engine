import MLPE.Proofs.SafeNode
import MLPE.Proofs.SafeDag

/-!
# Switch / one-of pipelines: one section of any task (`safe_section`), every step, every reachable state and log
(`safe_reach`, `safe_exec`); the switch-only special case

`hci : CoreInv s.core` (`Proofs/CoreInv.lean`) serves `safe_nodeStart`: a node found unprocessed has invocation count 0, nothing
being hidden without recurrent subgraphs (`CoreInv.unprocessed`).
-/
namespace MLPE.Eng
open MLPE

variable {val : Node → Option Val}
variable {c : Ctx} {fs below : List Frame} {s s' : St} {obs : List Obs}

/-! ### one section of any task, one step, every reachable state -/

theorem safe_section {rv : Resume} {out : Out} (x : Sec val c fs s []) (hci : CoreInv s.core)
    (h : Section c s fs rv out) : Good c.P val out := by
  cases h with
  | mgrStart => exact safe_mgrStart x.pop
  | mgrWait => exact safe_mgrCheck x.pop
  | mgrCbStart => exact x.pop.cbThen (fun _ => trivial) (safe_mgrBegin x.pop)
  | mgrCbComplete => exact x.pop.cbThen (fun _ => x.top) (safe_mgrReturn x.pop x.top)
  | dagInit => exact safe_dagInit x
  | dagLaunch => exact safe_dagLaunch _ x
  | dagWaitDest => exact safe_dagWaitDest x.pop x.top
  | nodeStart => obtain ⟨rfl, -, -⟩ := x.top.node; exact safe_nodeStart x hci
  | nodeEvWait => exact safe_nodePost_wait x.pop _ _
  | nodeBody => obtain ⟨rfl, hN, hpc⟩ := x.top.node; exact safe_nodeAfterBody x.pop hN hpc
  | nodeSleep => obtain ⟨rfl, hN, hpc⟩ := x.top.node; exact safe_nodeAttempt x.pop hN hpc
  | nodeCbStart =>
    obtain ⟨rfl, hN, hpc⟩ := x.top.node
    exact x.pop.cbThen (fun _ => hN.frame hpc) (safe_nodeBegin x.pop hN hpc.1 hpc.2)
  | nodeCbRetry =>
    obtain ⟨rfl, hN, hpc⟩ := x.top.node
    exact x.pop.cbThen (fun _ => hN.frame hpc) (safe_nodeSleep x.pop hN hpc)
  | nodeCbOk =>
    obtain ⟨-, hN, hpc⟩ := x.top.node
    exact x.pop.cbThen (fun _ => hN.frame hpc) (safe_nodePost_exec x.pop hN hpc.1 hpc.2)
  | nodeCbFail =>
    obtain ⟨-, hN, hpc⟩ := x.top.node
    exact x.pop.cbThen (fun _ => hN.frame hpc) (safe_nodeFailCont x.pop hN hpc.1 hpc.2)
  | nodeCbSave =>
    obtain ⟨-, hN, hpc⟩ := x.top.node
    exact x.pop.cbThen (fun _ => hN.frame hpc) (safe_nodeFinish x.pop _ _)
  | switchStart => exact safe_switchStart x
  | switchRet => exact (x.pop.resched (.notifyAll ..)).retTo _
  | oneofStart => exact safe_oneofTry _ x ⟨[], rfl, fun _ hy => nomatch hy⟩
  | oneofWait => exact safe_oneofWake x (safe_oneofTry _ (x.pop.push ⟨x.top.1, x.top.2.1, x.top.2.2.1⟩))
  -- no frame of a recurrent subgraph is ever justified
  | recStart | recIterErr | recIterDone | recIterNext | recDfltRet => exact x.top.elim

theorem safe_stepTask {c : Ctx} {s : St} (hsw : OneP c.P) (hsol : SolutionOne c.P val) (h : SInv c.P val s)
    (hci : CoreInv s.core) {out : Out} (hs : stepTask c s = some out) : Good c.P val out := by
  obtain ⟨tk, rv, htk, -, ⟨-, rfl⟩ | ⟨-, hsec⟩⟩ := stepTask_cases hs
  · exact safe_deliverCancel ⟨hsw, hsol, h.weaken c.t, fun _ hf => (nomatch hf), ObsAll.nil⟩ tk
  · exact safe_section ⟨hsw, hsol, h.weaken c.t, h.frames c.t tk htk (by simp), ObsAll.nil⟩ hci hsec

/-- **every step of the engine model preserves the safety invariant and emits only justified observations** -/
theorem safe_step {P : Program} (hsw : OneP P) (hsol : SolutionOne P val) {s : St} (h : SInv P val s)
    (hci : CoreInv s.core) (ch : Choice) (out : Out) (hs : step P s ch = some out) : Good P val out := by
  rcases step_cases hs with ⟨t, ord, pick, -, hs⟩ | ⟨r, ho⟩
  · exact safe_stepTask (c := ⟨P, t, ord, pick⟩) hsw hsol h hci hs
  · exact ⟨h.resched r, ho ▸ ObsAll.nil⟩

theorem safe_init {P : Program} : SInv P val init := by
  refine ⟨⟨fun _ => rfl, fun _ => rfl, fun _ => rfl, fun _ => rfl, fun _ _ h => (nomatch h), fun _ _ h => (nomatch h),
    fun _ _ h => (nomatch h), fun _ _ h => (nomatch h), fun _ _ _ h => (nomatch h), fun _ h => (nomatch h),
    Or.inr fun _ h => (nomatch h), rfl⟩, fun i tk hi _ f hf => ?_, fun i tk hi e he => ?_⟩
  · cases i with
    | zero => cases hi; cases hf with | head => trivial | tail _ h => cases h
    | succ i => cases hi
  · cases i with
    | zero => cases hi; cases he
    | succ i => cases hi

/-- **the safety invariant holds in every reachable state**, under every schedule -/
theorem safe_reach {P : Program} (hsw : OneP P) (hsol : SolutionOne P val) {s : St} (h : Reach P s) : SInv P val s := by
  induction h with
  | init => exact safe_init
  | @step s s' c obs hr hs ih => exact (safe_step hsw hsol ih (coreInv_reach hr) c (s', obs) hs).1

/-- **everything a run lets its collaborators observe is justified**, under every schedule -/
theorem safe_exec {P : Program} (hsw : OneP P) (hsol : SolutionOne P val) {s : St} {log : List Obs} (h : Exec P s log) :
    SInv P val s ∧ ObsAll P val log := by
  induction h with
  | init => exact ⟨safe_init, ObsAll.nil⟩
  | @step s s' log obs c hr hs ih =>
    have := safe_step hsw hsol ih.1 (coreInv_reach hr.reach) c (s', obs) hs
    exact ⟨this.1, ih.2.append this.2⟩

/-! ### the switch-only special case -/

/-- in a program without one-ofs no exception object is ever stored -/
theorem SData.noExc {P : Program} {s : St} (hd : SData P val s) (hno : ¬ HasHeads P) (n : Node) (v : Val)
    (h : s.res n = some v) : v.isExc = false := by
  rcases (hd.resOK h).cases with ⟨hne, -⟩ | ⟨e, rfl, -, -, hh⟩
  · exact hne
  · exact absurd hh hno

theorem safe_reach_sw {P : Program} (hsw : SwP P) (hsol : SolutionSw P val) {s : St} (h : Reach P s) : SInv P val s :=
  safe_reach hsw.toOneP (hsol.toOne hsw) h

theorem safe_exec_sw {P : Program} (hsw : SwP P) (hsol : SolutionSw P val) {s : St} {log : List Obs} (h : Exec P s log) :
    SInv P val s ∧ ObsAll P val log :=
  safe_exec hsw.toOneP (hsol.toOne hsw) h

/-- in a switch-only program, a returned value is the output's -/
theorem outcome_value_sw {P : Program} (hsw : SwP P) {v : Val} (h : OutcomeOKSw P val (.value v)) :
    val P.g.output = some v := by
  cases hx : v.isExc with
  | false => exact h.1 hx
  | true => exact absurd (h.2 hx) hsw.noHeads

/-- in a switch-only program a failure has one of the five switch-pipeline causes -/
theorem errCause_sw {P : Program} (hsw : SwP P) {e : Exc} (h : ErrCause P val e) :
    (∃ n, P.g.isSwitch n = false ∧ NodeFails P val n e) ∨ CollabFails P e ∨
    (∃ S, P.g.isSwitch S = true ∧ e = ⟨"SwitchNoCase", S, 0, 0⟩ ∧ swSel P val S = none) ∨
    e = ⟨"Other:NodeNotFound", 0, 0, 0⟩ ∨ (P.poolsOk = false ∧ e = ⟨"Other:RuntimeError", 0, 0, 0⟩) := by
  rcases h with ⟨n, h1, _, h3⟩ | h | h | h | h | ⟨x, hx, _⟩
  · exact Or.inl ⟨n, h1, h3⟩
  · exact Or.inr (Or.inl h)
  · exact Or.inr (Or.inr (Or.inl h))
  · exact Or.inr (Or.inr (Or.inr (Or.inl h)))
  · exact Or.inr (Or.inr (Or.inr (Or.inr h)))
  · rw [hsw.noHead x] at hx; cases hx

end MLPE.Eng
