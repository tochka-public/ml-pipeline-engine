import MLPE.Retry
import MLPE.Eng

/-! The retry / default policy `Retry.run` in closed form: the loop stops at the first attempt `Retry.decide` does not retry
(`run_of_decide`), and what `decide` answers to a raised exception (`decide_raise`).  Last, the engine's handler
`nodeAfterBody` on a raising body as a `match` on `Retry.decide` (`nodeAfterBody_raise`). -/
namespace MLPE.Retry

/-- `k, sleep, k+1, sleep, …, k+r` : r+1 consecutive invocations separated by `sleep d` -/
def patFrom (d : Nat) : Nat → Nat → List Ev
  | k, 0 => [.call k]
  | k, r + 1 => .call k :: .sleep d :: patFrom d (k + 1) r

def tailOf : Final → List Ev
  | .default => [.dflt]
  | _ => []

/-- what the node yields when the deciding attempt has outcome `o` -/
def finalOf (cfg : NodeCfg) : BodyOutcome → Final
  | .ret v => .value v
  | .raise e =>
    if cfg.retryable e || e.isException then (if cfg.useDefault then .default else .failed e)
    else .failed e

theorem finalOf_raise (cfg : NodeCfg) (e : Exc) :
    finalOf cfg (.raise e) = if (cfg.retryable e || e.isException) && cfg.useDefault then .default else .failed e := by
  simp only [finalOf]
  cases cfg.retryable e || e.isException <;> cases cfg.useDefault <;> rfl

theorem attemptsEff_pos (cfg : NodeCfg) : 1 ≤ cfg.attemptsEff := by
  unfold NodeCfg.attemptsEff
  cases cfg.attempts with
  | none => simp
  | some k => cases k <;> simp

theorem decide_raise (cfg : NodeCfg) (k : Nat) (e : Exc) :
    decide cfg k (.raise e) =
      if cfg.retryable e = true ∧ k ≠ cfg.attemptsEff then .retry else .done (finalOf cfg (.raise e)) := by
  unfold decide finalOf
  by_cases hr : cfg.retryable e = true
  · by_cases hk : k = cfg.attemptsEff
    · cases hd : cfg.useDefault <;> simp [hr, hk]
    · simp [hr, hk]
  · cases hx : e.isException <;> cases hd : cfg.useDefault <;> simp [hr, hx]

theorem decide_raise_ne_value (cfg : NodeCfg) (k : Nat) (e : Exc) (v : Val) : decide cfg k (.raise e) ≠ .done (.value v) := by
  rw [decide_raise, finalOf_raise]
  split
  · exact nofun
  · split <;> exact nofun

theorem decide_retry_iff (cfg : NodeCfg) (k : Nat) (o : BodyOutcome) :
    decide cfg k o = .retry ↔ ∃ e, o = .raise e ∧ cfg.retryable e = true ∧ k ≠ cfg.attemptsEff := by
  cases o with
  | ret v => simp [decide]
  | raise e => simp [decide_raise]

theorem loop_of_decide (cfg : NodeCfg) (outcomes : Nat → BodyOutcome) (f : Final) :
    ∀ (fuel r k : Nat), r < fuel →
      (∀ j, k ≤ j → j < k + r → decide cfg j (outcomes j) = .retry) →
      decide cfg (k + r) (outcomes (k + r)) = .done f →
      loop cfg outcomes fuel k = (patFrom cfg.delayEff k r ++ tailOf f, some f) := by
  intro fuel
  induction fuel with
  | zero => exact fun r k hf => absurd hf (Nat.not_lt_zero r)
  | succ fuel ih =>
    intro r k hf hr hd
    cases r with
    | zero =>
      simp only [loop, Nat.add_zero k ▸ hd]
      cases f <;> rfl
    | succ r =>
      simp only [loop, hr k (Nat.le_refl k) (by omega)]
      rw [ih r (k + 1) (Nat.lt_of_succ_lt_succ hf) (fun j h1 h2 => hr j (by omega) (by omega))
        (by rw [Nat.add_right_comm]; exact hd)]
      rfl

theorem run_of_decide (cfg : NodeCfg) (outcomes : Nat → BodyOutcome) (f : Final) (m : Nat)
    (hpos : 1 ≤ m) (hle : m ≤ cfg.attemptsEff)
    (hb : ∀ j, 1 ≤ j → j < m → decide cfg j (outcomes j) = .retry)
    (hd : decide cfg m (outcomes m) = .done f) :
    run cfg outcomes = (patFrom cfg.delayEff 1 (m - 1) ++ tailOf f, some f) := by
  obtain ⟨m, rfl⟩ := Nat.exists_eq_add_of_le hpos
  rw [Nat.add_sub_cancel_left]
  exact loop_of_decide cfg outcomes f _ m 1 (by omega) hb hd

theorem exists_least (p : Nat → Prop) : ∀ N, p N → ∃ m, m ≤ N ∧ p m ∧ ∀ j, j < m → ¬ p j := by
  intro N
  induction N using Nat.strongRecOn with
  | _ N ih =>
    intro hN
    by_cases h : ∃ j, j < N ∧ p j
    · obtain ⟨j, hj, hp⟩ := h
      obtain ⟨m, hm, r⟩ := ih j hj hp
      exact ⟨m, Nat.le_trans hm (Nat.le_of_lt hj), r⟩
    · exact ⟨N, Nat.le_refl N, hN, fun j hj hp => h ⟨j, hj, hp⟩⟩

open MLPE.Eng in
/-- only the raising body: a returning one is `nodeSuccess`, by `rfl` -/
theorem nodeAfterBody_raise (c : Ctx) (s : St) (obs : List Obs) (d : DagRef) (n : Node) (force : Bool)
    (below : List Frame) (k : Nat) (kw : Kwargs) (inv : Nat) (e : Exc) :
    nodeAfterBody c s obs d n force below k kw inv (.raise e) =
      match decide (c.P.cfg n) k (.raise e) with
      | .retry =>
        cbCall c .ncomplete n s (obs ++ [.ncomplete n (some e)]) (fun j => .node d n force (.cbRetry j k kw inv) :: below)
          (fun s obs => nodeSleep c s obs d n force below k kw inv)
          (fun e' s obs => nodeCbRaiseInTry c s obs d n below e')
      | .done (.value v) => nodeSuccess c s obs d n below v
      | .done .default => nodeDefault c s obs d n below kw
      | .done (.failed e) =>
        if (c.P.cfg n).retryable e || e.isException then nodeFail c s obs d n below e
        else raiseOut c (nodeFinally c.P s d n true) obs below (.exc e) := by
  unfold nodeAfterBody decide
  by_cases hr : (c.P.cfg n).retryable e = true
  · by_cases hk : (k == (c.P.cfg n).attemptsEff) = true
    · by_cases hd : (c.P.cfg n).useDefault = true <;> simp [hr, hk, hd]
    · simp [hr, hk]
  · by_cases hx : e.isException = true
    · by_cases hd : (c.P.cfg n).useDefault = true <;> simp [hr, hx, hd]
    · simp [hr, hx]

end MLPE.Retry
