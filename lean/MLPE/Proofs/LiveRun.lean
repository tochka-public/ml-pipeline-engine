import MLPE.Proofs.LiveDag
import MLPE.Proofs.LiveNode

/-!
# Stuck-freedom of pipelines with switches: the caller's sections, the environment's steps, every reachable state
-/
namespace MLPE.Eng
open MLPE

variable {P : Program} {depth : Node → Nat}

/-! ### `chart.run` / `manager.run` -/

theorem mgrReturn_outcome (c : Ctx) (s : St) (obs : List Obs) (o : Outcome) : (mgrReturn c s obs o).1.outcome = some o := rfl

theorem mgrComplete_outcome (c : Ctx) (hy : ∀ cb n, c.P.cbYield cb n = 0) (s : St) (obs : List Obs) (o : Outcome) :
    (mgrComplete c s obs o).1.outcome ≠ none := by
  rcases mgrComplete_cases c s obs o with ⟨obs', o', h, -⟩ | ⟨j, hj, -⟩
  · rw [h]; exact nofun
  · rw [hy] at hj; cases hj

/-- **`chart.run` starts**: it returns at once (a collaborator raised, the pools are misconfigured), or it creates the main
`_run_dag` task and waits -/
theorem struct_mgrStart (hp : LiveP P depth) (c : Ctx) (hcP : c.P = P) {s : St}
    (hs : Struct P depth s) {tkt : Task} (htkt : s.tasks[c.t]? = some tkt) (hnm : tkt.name = .caller)
    (hlen : s.tasks.length = 1) (hproc : ∀ n, s.proc n = false) (hev : ∀ n, s.evSet n = false)
    (hsw : ∀ S, s.sw S = none) (obs : List Obs) :
    (mgrStart c s obs).1.outcome ≠ none ∨ Struct P depth (mgrStart c s obs).1 := by
  have hy : ∀ cb n, c.P.cbYield cb n = 0 := by rw [hcP]; exact hp.noYield
  have hd := hs.data
  have hmc := hs.noCancel htkt
  unfold mgrStart
  rw [cbCall_noYield c hy]
  split
  · left; rw [mgrReturn_outcome]; simp
  · unfold mgrBegin
    split
    · exact Or.inl (mgrComplete_outcome c hy _ _ _)
    · split
      · exact Or.inl (mgrComplete_outcome c hy _ _ _)
      · next dm hdm =>
        unfold mgrCheck
        split
        · exact Or.inl (mgrComplete_outcome c hy _ _ _)
        · next hcond =>
          right
          obtain ⟨ht0, htasks⟩ := tasks_singleton hlen htkt
          have hresNone : ∀ n, s.res n = none := by
            intro n
            cases hr : s.res n with
            | none => rfl
            | some v => have := hd.c6 n (by rw [hr]; rfl); rw [hproc n] at this; cases this
          rw [block_finish, finish_blocked (getElem?_spawn_old htkt _ _)]
          rw [hcP] at hdm
          obtain ⟨d', hd', hdst, hout, hdag, _⟩ := hp.dag s P.g.output false (Or.inl rfl)
          have hdd : d' = dm := by rw [hd'] at hdm; cases hdm; rfl
          subst hdd
          have hfin : (St.setTask (spawn s [.dagInit d'] .run).1 c.t
              { tkt with frames := [.mgrWait], st := .blocked (.cond .run) }).tasks =
              [{ tkt with frames := [.mgrWait], st := .blocked (.cond .run) },
               { frames := [.dagInit d'], st := .runnable .go, name := .run }] := by
            show (s.tasks ++ [_]).set c.t _ = _
            rw [ht0, htasks]; rfl
          have hte : taskErrors (St.setTask (spawn s [.dagInit d'] .run).1 c.t
              { tkt with frames := [.mgrWait], st := .blocked (.cond .run) }) = [] := by
            unfold taskErrors; rw [hfin]; rfl
          refine ⟨LData.empty hd.noHid hresNone hproc hev hsw hd.stale ?_, ?_, ?_, ?_⟩
          · intro tk htk
            rw [hfin] at htk
            simp only [List.mem_cons, List.not_mem_nil, or_false] at htk
            rcases htk with rfl | rfl
            · exact ⟨hmc, fun _ _ _ _ h => by cases h⟩
            · exact ⟨rfl, fun _ _ _ _ h => by cases h⟩
          · intro i tk hi
            rw [hfin] at hi
            match i, hi with
            | 0, hi =>
              cases (Option.some.inj hi)
              exact .callerWait _ hnm rfl (Or.inr ⟨rfl, hte, hresNone _⟩)
            | 1, hi =>
              cases (Option.some.inj hi)
              exact .main _ (.dagInit d') d' rfl rfl (.init d') hdag hdst hout ⟨_, rfl⟩
            | n + 2, hi => cases hi
          · rw [hfin]; exact ⟨_, rfl, hnm⟩
          · intro tk h0 _
            rw [hfin]; exact ⟨_, rfl, rfl⟩

/-- **`manager.run` checks for a result or a failed task**: it returns, or waits for the next notification -/
theorem struct_mgrCheck (hp : LiveP P depth) (c : Ctx) (hcP : c.P = P) {s : St}
    (hs : Struct P depth s) {tkt : Task} (htkt : s.tasks[c.t]? = some tkt) (hnm : tkt.name = .caller)
    (hf0 : tkt.frames = [.mgrWait]) (hrt : ∃ rv, tkt.st = .runnable rv) (obs : List Obs) :
    (mgrCheck c s obs).1.outcome ≠ none ∨ Struct P depth (mgrCheck c s obs).1 := by
  have hy : ∀ cb n, c.P.cbYield cb n = 0 := by rw [hcP]; exact hp.noYield
  have hd := hs.data
  have hmc := hs.noCancel htkt
  rcases mgrCheck_cases c s obs with ⟨-, e⟩ | ⟨herr, hex, e⟩ <;> rw [e]
  · exact Or.inl (mgrComplete_outcome c hy _ _ _)
  · right
    rw [hcP] at hex
    have hnores : s.res P.g.output = none := by simpa [exists_visible fun n => (hd.noHid n).1] using hex
    rw [block_finish, finish_blocked htkt]
    refine Struct.close_same hs htkt rfl hrt (fun _ => hf0) (Ext.refl _ _) rfl rfl rfl rfl rfl rfl hmc ?_ ?_ (Or.inl ?_) ?_ ?_
      (no_new_task (by rfl))
    · intro d' n f pc h; rw [hf0] at h; cases h
    · intro d' n f pc h; cases h
    · intro x hx; cases hx
    · refine .callerWait _ hnm rfl (Or.inr ⟨rfl, ?_, hnores⟩)
      exact taskErrors_close_nil (Ext.refl _ _) herr (fun x hx => by cases hx) (no_new_task (by rfl))
    · intro S hfr
      rw [hf0] at hfr; cases hfr

/-! ### the environment's steps: a node body finishes, a retry timer fires -/

/-- waits that the environment ends -/
def Wait.isExt : Wait → Bool
  | .gate _ _ _ _ => true
  | .sleep _ _ _ _ => true
  | _ => false

theorem LaunchSt.not_ext {s : St} {tk : Task} {F : Frame} (h : LaunchSt P s tk F) {w : Wait}
    (hb : tk.st = .blocked w) (hw : w.isExt = true) : False := by
  cases F with
  | dagInit d => obtain ⟨rv, h⟩ := h; rw [h] at hb; cases hb
  | dagLaunch d l =>
    cases l with
    | nil => exact h
    | cons m r =>
      rcases h.2 with ⟨rv, h⟩ | ⟨h, _⟩ <;> rw [h] at hb <;> cases hb
      cases hw
  | dagWaitDest d =>
    rcases h with ⟨rv, h⟩ | h <;> rw [h] at hb <;> cases hb
    cases hw
  | _ => exact h

theorem ext_wait_is_exec {s : St} {tk : Task} (h : TaskOK P depth s tk) {w : Wait}
    (hb : tk.st = .blocked w) (hw : w.isExt = true) :
    ∃ d q pc, tk.name = .node q ∧ P.g.isSwitch q = false ∧ tk.frames = [.node d q false pc] ∧ pc ≠ .start ∧
      pc ≠ .evWait ∧ s.proc q = true ∧ s.res q = none ∧ pc.rests = true := by
  cases h with
  | nodeExec d0 q pc hn hns hfr hpc1 hpc2 _ hproc hnores hrests =>
    exact ⟨d0, q, pc, hn, hns, hfr, hpc1, hpc2, hproc, hnores, hrests⟩
  | main _ _ _ _ _ _ _ _ hst | swIn _ _ _ _ _ _ _ _ _ hst => exact (hst.not_ext hb hw).elim
  | mainDone _ _ hst | nodeStart _ _ _ _ _ hst | nodeDone _ _ _ _ _ hst | swStart _ _ _ _ _ _ hst
  | swDone _ _ _ _ _ hst => rw [hst] at hb; cases hb
  | callerStart _ _ hst | swRet _ _ _ _ _ hst => obtain ⟨_, h⟩ := hst; rw [h] at hb; cases hb
  | callerWait _ _ hst =>
    rcases hst with ⟨rv, h⟩ | ⟨h, _⟩ <;> rw [h] at hb <;> cases hb
    cases hw
  | nodeWait _ _ _ _ _ hst =>
    rcases hst with ⟨⟨rv, h⟩, _⟩ | h <;> rw [h] at hb <;> cases hb
    cases hw

structure EnvTask (tk tk' : Task) : Prop where
  frames : tk'.frames = tk.frames
  name   : tk'.name = tk.name
  cancel : tk'.mustCancel = tk.mustCancel
  st     : tk'.st = tk.st ∨ ∃ w, tk.st = .blocked w ∧ w.isExt = true ∧ ∃ rv, tk'.st = .runnable rv

/-- a step of the environment: storage is untouched, some waits for a body or a timer end -/
structure Env (s s' : St) : Prop where
  res     : s'.res = s.res
  resHid  : s'.resHid = s.resHid
  proc    : s'.proc = s.proc
  procHid : s'.procHid = s.procHid
  sw      : s'.sw = s.sw
  evSet   : s'.evSet = s.evSet
  stale   : s'.stale = s.stale
  len     : s'.tasks.length = s.tasks.length
  task    : ∀ (i : Nat) (tk : Task), s.tasks[i]? = some tk → ∃ tk', s'.tasks[i]? = some tk' ∧ EnvTask tk tk'

theorem Env.back {s s' : St} (e : Env s s') {i : Nat} {tk' : Task} (h : s'.tasks[i]? = some tk') :
    ∃ tk, s.tasks[i]? = some tk ∧ EnvTask tk tk' := by
  have hlt : i < s.tasks.length := by rw [← e.len]; exact getElem?_lt h
  obtain ⟨tk'', h1, h2⟩ := e.task i s.tasks[i] (List.getElem?_eq_getElem hlt)
  rw [h] at h1; cases h1
  exact ⟨_, List.getElem?_eq_getElem hlt, h2⟩

theorem EnvTask.resched {tk tk' : Task} (e : EnvTask tk tk') : tk.Resched tk' :=
  ⟨e.frames, e.name, e.st.imp id (fun ⟨w, h1, _, hr⟩ => ⟨⟨w, h1⟩, hr⟩), fun h => e.cancel ▸ h⟩

theorem EnvTask.done_iff {tk tk' : Task} (e : EnvTask tk tk') (r : TaskRes) : tk'.st = .done r ↔ tk.st = .done r := by
  rcases e.st with h1 | ⟨w, hw, _, rv, hr'⟩
  · rw [h1]
  · rw [hr', hw]; constructor <;> intro h <;> cases h

theorem Env.keeps {s s' : St} (e : Env s s') : Keeps none s s' :=
  ⟨fun i tk hi _ => (e.task i tk hi).imp fun _ h => ⟨h.1, h.2.resched⟩, fun n h => by rw [e.proc]; exact h⟩

theorem taskErrors_env {s s' : St} (e : Env s s') (x : Exc) : x ∈ taskErrors s' ↔ x ∈ taskErrors s := by
  rw [mem_taskErrors_iff, mem_taskErrors_iff]
  constructor
  · rintro ⟨i, tk', hi, hd⟩
    obtain ⟨tk, h1, te⟩ := e.back hi
    exact ⟨i, tk, h1, (te.done_iff _).mp hd⟩
  · rintro ⟨i, tk, hi, hd⟩
    obtain ⟨tk', h1, te⟩ := e.task i tk hi
    exact ⟨i, tk', h1, (te.done_iff _).mpr hd⟩

theorem taskErrors_env_nil {s s' : St} (e : Env s s') : taskErrors s' = [] ↔ taskErrors s = [] := by
  simp only [List.eq_nil_iff_forall_not_mem, taskErrors_env e]

theorem struct_env {P : Program} {depth : Node → Nat} {s s' : St} (hs : Struct P depth s) (e : Env s s') :
    Struct P depth s' := by
  have hd := hs.data
  have hL : ∀ q, Launched P s q → Launched P s' q := fun q h => h.keep e.keeps (fun _ _ h => nomatch h)
  refine ⟨?_, ?_, ?_, ?_⟩
  · -- the storage is that of `s`; the clauses that speak of tasks speak of their frames, marks and failures
    refine ⟨fun n => e.resHid ▸ e.procHid ▸ hd.noHid n, fun n v h => hd.noRec n v (e.res ▸ h), fun n hn => ?_, fun n hn => ?_,
      fun n hn => e.evSet ▸ hd.c5 n (e.res ▸ hn), fun S l c h => hd.swEdge S l c (e.sw ▸ h), fun S lc h => ?_,
      fun n hn => e.proc ▸ hd.c6 n (e.res ▸ hn), fun n hn => hd.procPlain n (e.proc ▸ hn), ?_, fun tk htk => ?_,
      e.stale.trans hd.stale⟩
    · exact (hd.c1 n (e.proc ▸ hn)).imp (fun h => e.evSet ▸ h) (fun h => h.keep e.keeps (fun _ _ h => nomatch h))
    · exact (hd.c4 n (e.evSet ▸ hn)).imp (fun h => e.res ▸ h) (fun h h' => h ((taskErrors_env_nil e).mp h'))
    · exact switchSelect_mono e.resHid (fun n => Or.inl (by rw [e.res])) (hd.swSel S lc (e.sw ▸ h))
    · intro i j ti tj q d1 d2 f1 f2 p1 p2 hi hj hfi hfj hp1 hp2
      obtain ⟨ti0, hi0, tei⟩ := e.back hi
      obtain ⟨tj0, hj0, tej⟩ := e.back hj
      exact hd.uniq i j ti0 tj0 q d1 d2 f1 f2 p1 p2 hi0 hj0 (tei.frames ▸ hfi) (tej.frames ▸ hfj) hp1 hp2
    · obtain ⟨i, hget⟩ := List.getElem?_of_mem htk
      obtain ⟨tk0, h0, te⟩ := e.back hget
      rw [te.cancel]
      exact hd.noCancel tk0 (List.mem_of_getElem? h0)
  · intro i tk' hi
    obtain ⟨tk, h0, te⟩ := e.back hi
    have hok := hs.tasks i tk h0
    rcases te.st with hsame | ⟨w, hw, hext, hr⟩
    · refine TaskOK.transport ⟨te.frames, te.name, te.cancel, Or.inl hsame⟩ hok
        ((Classical.em (s.tasks.length = 1)).symm.imp id (fun hl => ⟨e.len ▸ hl, e.proc, e.evSet, e.sw⟩))
        (fun n v h => e.res ▸ h) (fun S lc h => e.sw ▸ h) (fun n h => e.proc ▸ h) (fun n h => e.evSet ▸ h) hL
        (fun he0 hr0 => Or.inl ⟨(taskErrors_env_nil e).mpr he0, e.res ▸ hr0⟩) ?_ (fun d q pc _ _ _ h => e.res ▸ h)
      intro d m hrec hb hrd hold
      rw [ready_congr e.res e.resHid e.sw] at hrd
      obtain ⟨S, hS, hSs, ho⟩ := hold hrd
      exact ⟨S, hS, hSs, ho.keep e.keeps (fun _ _ h => nomatch h)⟩
    · obtain ⟨d, q, pc, hn, hns, hfr, hpc1, hpc2, hproc, hnores, hrests⟩ := ext_wait_is_exec hok hw hext
      exact .nodeExec tk' d q pc (te.name.trans hn) hns (te.frames.trans hfr) hpc1 hpc2 (Or.inl hr)
        (e.proc ▸ hproc) (e.res ▸ hnores) hrests
  · obtain ⟨tk0, h0, hn0⟩ := hs.caller
    obtain ⟨tk', h1, te⟩ := e.task 0 tk0 h0
    exact ⟨tk', h1, te.name.trans hn0⟩
  · intro tk' h0 hf
    obtain ⟨tk, h1, te⟩ := e.back h0
    obtain ⟨tk1, h2, hn1⟩ := hs.main tk h1 (te.frames ▸ hf)
    obtain ⟨tk1', h3, te1⟩ := e.task 1 tk1 h2
    exact ⟨tk1', h3, te1.name.trans hn1⟩

theorem EnvTask.refl (tk : Task) : EnvTask tk tk := ⟨rfl, rfl, rfl, Or.inl rfl⟩

theorem envTask_gateDone (n inv att : Nat) (tk : Task) : EnvTask tk (gateDone n inv att tk) := by
  unfold gateDone
  split
  · next n' i' a' o hst =>
    split
    · exact ⟨rfl, rfl, rfl, Or.inr ⟨_, hst, rfl, _, rfl⟩⟩
    · exact EnvTask.refl tk
  · exact EnvTask.refl tk

theorem env_gate (s : St) (n inv att : Nat) : Env s { s with tasks := s.tasks.map (gateDone n inv att) } := by
  refine ⟨rfl, rfl, rfl, rfl, rfl, rfl, rfl, by simp, ?_⟩
  intro i tk hi
  exact ⟨gateDone n inv att tk, by simp [List.getElem?_map, hi], envTask_gateDone n inv att tk⟩

theorem env_timer (s : St) (t : Nat) (tk : Task) (ht : s.tasks[t]? = some tk) {n i a d : Nat}
    (hst : tk.st = .blocked (.sleep n i a d)) : Env s (s.setTask t { tk with st := .runnable .go }) := by
  have hlt := getElem?_lt ht
  refine ⟨rfl, rfl, rfl, rfl, rfl, rfl, rfl, by simp [St.setTask], ?_⟩
  intro j tkj hj
  rw [getElem?_setTask hlt]
  split
  · next h =>
    subst h
    rw [ht] at hj; cases hj
    exact ⟨_, rfl, rfl, rfl, rfl, Or.inr ⟨_, hst, rfl, _, rfl⟩⟩
  · exact ⟨tkj, hj, EnvTask.refl tkj⟩

/-! ### every section, every step, every reachable state -/

theorem struct_stepTask {P : Program} {depth : Node → Nat} (hp : LiveP P depth) (c : Ctx) (hcP : c.P = P) {s : St}
    (hs : Struct P depth s) {out : Out} (h : stepTask c s = some out) (hv : Obs.badOracle ∉ out.2) :
    out.1.outcome ≠ none ∨ Struct P depth out.1 := by
  obtain ⟨tk, rv, htk, hst, ⟨hc, _⟩ | ⟨_, hsec⟩⟩ := stepTask_cases h
  · rw [hs.noCancel htk] at hc; cases hc
  have hrt : ∃ rv, tk.st = .runnable rv := ⟨rv, hst⟩
  -- the task's description gives its frame stack, the frame stack the section
  cases hs.tasks c.t tk htk with
  | mainDone _ _ hst' | nodeDone _ _ _ _ _ hst' | swDone _ _ _ _ _ hst' => rw [hst'] at hst; cases hst
  | callerStart hn hfr hst' hlen hp0 he0 hs0 =>
    rw [hfr] at hsec; cases hsec
    exact struct_mgrStart hp c hcP hs htk hn hlen hp0 he0 hs0 []
  | callerWait hn hfr hst' =>
    rw [hfr] at hsec; cases hsec
    exact struct_mgrCheck hp c hcP hs htk hn hfr hrt []
  | main F _ _ hfr hdf | swIn F _ _ _ _ _ hfr hdf =>
    exact Or.inr (struct_dagSection hp c hcP hs htk hrt hfr (by cases hdf <;> rfl) (hfr ▸ hsec) hv)
  | nodeStart d0 q hn hns hfr hst' =>
    rw [hfr] at hsec; cases hsec
    exact Or.inr (struct_nodeStart hp c hcP hs htk hn hns hfr hrt [])
  | nodeWait d0 q hn hns hfr hst' hproc =>
    rw [hfr] at hsec; cases hsec
    have hev : s.evSet q = true := by
      rcases hst' with ⟨_, h⟩ | h
      · exact h
      · rw [h] at hst; cases hst
    exact Or.inr (struct_node_read hp c hcP hs htk hn hns hfr hrt hproc hev [])
  | nodeExec d0 q pc hn hns hfr hpc1 hpc2 hlive hproc hnores hrests =>
    rw [hfr] at hsec
    have x : NCtx P depth c s s tk d0 q pc :=
      ⟨hp, hcP, hs, htk, hn, hns, hfr, hrt, Or.inl ⟨rfl, NodePc.exec_of_ne hpc1 hpc2, hproc, hnores⟩⟩
    cases pc with
    | body k kw inv => cases hsec; exact Or.inr (x.afterBody k kw inv [])
    | sleep k kw inv => cases hsec; exact Or.inr (x.attempt (k + 1) kw inv [])
    | _ => cases hrests
  | swStart d0 S0 hn hsS hfr hno1 hst' =>
    rw [hfr] at hsec; cases hsec
    exact Or.inr (struct_switchStart hp c hcP hs htk hn hsS hfr hno1 hst' [] hv)
  | swRet d0 S0 hn hsS hfr hst' hsw =>
    rw [hfr] at hsec; cases hsec
    have hself : (notifyAll s ((c.P.g.desc1 S0).map Key.node)).tasks[c.t]? = some tk := by
      rw [notifyAll_eq, (Ext.woken _ _ (runnable_at htk hrt)).self]; exact htk
    rw [retTo_finish, if_pos rfl, finish_done hself, hcP]
    exact Or.inr (struct_switch_ret hp hs htk hn hsS hfr hrt hsw _ rfl rfl rfl rfl)

theorem struct_init (P : Program) (depth : Node → Nat) : Struct P depth init := by
  have htasks : init.tasks = [{ frames := [.mgrStart], st := .runnable .go, name := .caller }] := rfl
  refine ⟨LData.empty (fun n => ⟨rfl, rfl⟩) (fun _ => rfl) (fun _ => rfl) (fun _ => rfl) (fun _ => rfl) rfl ?_, ?_,
    ⟨_, rfl, rfl⟩, ?_⟩
  · intro tk htk
    rw [htasks] at htk
    simp only [List.mem_cons, List.not_mem_nil, or_false] at htk
    rw [htk]
    exact ⟨rfl, fun _ _ _ _ h => by cases h⟩
  · intro i tk hi
    rw [htasks] at hi
    match i, hi with
    | 0, hi =>
      cases (Option.some.inj hi)
      exact .callerStart _ rfl rfl ⟨_, rfl⟩ rfl (fun _ => rfl) (fun _ => rfl) (fun _ => rfl)
    | n + 1, hi => cases hi
  · intro tk h0 hf
    rw [htasks] at h0
    cases (Option.some.inj h0)
    cases hf

/-- the runs of a pending pipeline: the steps of the model before `chart.run` returns, in which the launch orders the
scheduler proposes are admissible answers of `_get_node_order`, and nobody cancels the caller -/
inductive LiveReach (P : Program) : St → Prop
  | init : LiveReach P init
  | step {s s' : St} {ch : Choice} {obs : List Obs} : LiveReach P s → s.outcome = none → ch ≠ .cancelCaller →
      step P s ch = some (s', obs) → Obs.badOracle ∉ obs → LiveReach P s'

theorem LiveReach.reach {s : St} (h : LiveReach P s) : Reach P s := by
  induction h with
  | init => exact .init
  | step _ _ _ hs _ ih => exact .step ih hs

theorem struct_step (hp : LiveP P depth) {s s' : St} (hs : Struct P depth s)
    {ch : Choice} {obs : List Obs} (hch : ch ≠ .cancelCaller) (h : step P s ch = some (s', obs))
    (hv : Obs.badOracle ∉ obs) : s'.outcome ≠ none ∨ Struct P depth s' := by
  cases ch with
  | run t ord pick => exact struct_stepTask hp { P := P, t := t, ord := ord, pick := pick } rfl hs h hv
  | gate n inv att =>
    cases step_gate h
    exact Or.inr (struct_env hs (env_gate s n inv att))
  | timer t =>
    obtain ⟨tk, _, _, _, _, htk, hst, h⟩ := step_timer h
    cases h
    exact Or.inr (struct_env hs (env_timer s t tk htk hst))
  | cancelCaller => exact absurd rfl hch

theorem live_inv (hp : LiveP P depth) {s : St} (h : LiveReach P s) :
    s.outcome ≠ none ∨ Struct P depth s := by
  induction h with
  | init => exact Or.inr (struct_init P depth)
  | step _ hout hch hs hv ih =>
    rcases ih with h | h
    · exact absurd hout h
    · exact struct_step hp h hch hs hv

/-- **a pending run of a pipeline with switches is never stuck**: in every state the model reaches while `chart.run` has
not returned, some task is runnable, or a node body or a retry timer is outstanding — under every schedule, every
order of node completions, every admissible launch order, every body outcome and every failing collaborator -/
theorem live_not_stuck (hp : LiveP P depth) {s : St} (h : LiveReach P s) :
    stuck s = false := by
  rcases live_inv hp h with h1 | h1
  · unfold stuck
    cases ho : s.outcome with
    | none => exact absurd ho h1
    | some o => rfl
  · obtain ⟨i, tk, hi, hl⟩ := struct_live hp h1
    exact not_stuck_of_live hi hl

end MLPE.Eng
