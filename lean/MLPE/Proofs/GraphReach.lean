import MLPE.Basic

/-!
# Soundness of the reachability computations of `Basic.lean`

`between g w s d` (the node set of `all_simple_paths` in a view) only contains nodes from which `d` can be reached along
edges the view keeps (`between_sound`), and `d` is one of them (`between_dst_mem`).  The last section: `reachSet` is monotone
in the view.
-/
namespace MLPE.Graph
open MLPE

def VEdge (g : Graph) (w : View) (a b : Node) : Prop := ∃ e ∈ g.edges, e.u = a ∧ e.v = b ∧ w.okEdge e = true

inductive VReach (g : Graph) (w : View) : Node → Node → Prop
  | refl (a : Node) : VReach g w a a
  | tail {a b c : Node} : VReach g w a b → VEdge g w b c → VReach g w a c

theorem mem_vsuccs {g : Graph} {w : View} {x y : Node} (h : y ∈ g.vsuccs w x) : VEdge g w x y := by
  simp only [vsuccs, List.mem_map, List.mem_filter, Bool.and_eq_true, beq_iff_eq] at h
  obtain ⟨e, ⟨he, ⟨⟨⟨hu, hok⟩, _⟩, _⟩⟩, hv⟩ := h
  exact ⟨e, he, hu, hv, hok⟩

theorem mem_foldl_insert (l : List Node) : ∀ (acc : List Node) (y : Node),
    y ∈ l.foldl (fun acc x => if acc.contains x then acc else acc ++ [x]) acc ↔ y ∈ acc ∨ y ∈ l := by
  induction l with
  | nil => simp
  | cons a l ih =>
    intro acc y
    rw [List.foldl_cons, ih, List.mem_cons]
    split
    · next hc =>
      have ha := List.contains_iff_mem.mp hc
      exact ⟨fun h => h.elim Or.inl (fun h => Or.inr (Or.inr h)),
        fun h => h.elim Or.inl (fun h => h.elim (fun e => Or.inl (e ▸ ha)) Or.inr)⟩
    · rw [List.mem_append, List.mem_singleton, or_assoc]

theorem mem_expand {g : Graph} {w : View} {S : List Node} {y : Node} :
    y ∈ g.expand w S ↔ y ∈ S ∨ ∃ x ∈ S, y ∈ g.vsuccs w x := by
  simp only [expand, mem_foldl_insert, List.mem_flatMap]

theorem reachFuel_sound {g : Graph} {w : View} {a : Node} : ∀ (f : Nat) (S : List Node),
    (∀ y ∈ S, VReach g w a y) → ∀ y ∈ g.reachFuel w f S, VReach g w a y := by
  intro f
  induction f with
  | zero => intro S hS y hy; exact hS y hy
  | succ f ih =>
    intro S hS y hy
    simp only [reachFuel] at hy
    refine ih (g.expand w S) ?_ y hy
    intro z hz
    rcases mem_expand.mp hz with h1 | ⟨x, hx, hzx⟩
    · exact hS z h1
    · exact .tail (hS x hx) (mem_vsuccs hzx)

theorem reachSet_sound {g : Graph} {w : View} {a y : Node} (h : y ∈ g.reachSet w a) : VReach g w a y := by
  unfold reachSet at h
  refine reachFuel_sound _ [a] ?_ y h
  intro z hz
  simp only [List.mem_singleton] at hz
  subst hz
  exact .refl _

theorem between_mem {g : Graph} {w : View} {s d : Node} {L : List Node} (h : g.between w s d = some L) {x : Node}
    (hx : x ∈ L) : x ∈ g.nodes ∧ VReach g w x d := by
  unfold between at h
  split at h
  · cases h
  · next h1 =>
    split at h
    · cases h; cases hx
    · split at h
      · next hsd =>
        cases h
        obtain rfl := List.mem_singleton.mp hx
        obtain rfl : x = d := by simpa using hsd
        simp only [Bool.not_eq_true', Bool.and_eq_false_iff, not_or, Bool.not_eq_false, List.contains_iff_mem] at h1
        exact ⟨h1.1, .refl _⟩
      · cases h
        simp only [List.mem_filter, vnodes, Bool.and_eq_true, List.contains_iff_mem] at hx
        exact ⟨hx.1.1, reachSet_sound hx.2.2⟩

theorem between_sound {g : Graph} {w : View} {s d : Node} {L : List Node} (h : g.between w s d = some L) {x : Node}
    (hx : x ∈ L) : VReach g w x d :=
  (between_mem h hx).2

theorem between_visible {g : Graph} {w : View} {s d : Node} {L : List Node} (h : g.between w s d = some L) {x : Node}
    (hx : x ∈ L) : x ∈ g.nodes :=
  (between_mem h hx).1

theorem subset_reachFuel {g : Graph} {w : View} : ∀ (f : Nat) (S : List Node) (y : Node), y ∈ S → y ∈ g.reachFuel w f S := by
  intro f
  induction f with
  | zero => intro S y h; exact h
  | succ f ih => intro S y h; simp only [reachFuel]; exact ih _ _ (mem_expand.mpr (Or.inl h))

theorem self_mem_reachSet (g : Graph) (w : View) (a : Node) : a ∈ g.reachSet w a := by
  unfold reachSet
  exact subset_reachFuel _ _ _ (by simp)

theorem between_dst_mem {g : Graph} {w : View} {s d : Node} {L : List Node} (h : g.between w s d = some L)
    (hs : s ∈ g.nodes) (hsv : w.okNode s = true) (hd : d ∈ g.nodes) (hdv : w.okNode d = true) (hne : s ≠ d)
    (hr : d ∈ g.reachSet w s) : d ∈ L := by
  unfold between at h
  have h1 : (g.nodes.contains s && w.okNode s) = true := by simp [hs, hsv]
  have h2 : (g.nodes.contains d && w.okNode d) = true := by simp [hd, hdv]
  have h3 : (s == d) = false := by simpa using hne
  simp only [h1, h2, h3, Bool.not_true, Bool.false_eq_true, if_false] at h
  cases h
  simp only [List.mem_filter, vnodes, Bool.and_eq_true, List.contains_iff_mem]
  exact ⟨⟨hd, hdv⟩, hr, self_mem_reachSet g w d⟩

/-- `VEdge` asks for `okEdge` only, so `VReach` does not depend on which nodes the view shows -/
theorem VReach.of_okEdge {g : Graph} {w w' : View} (he : w.okEdge = w'.okEdge) {a b : Node} (h : VReach g w a b) :
    VReach g w' a b := by
  induction h with
  | refl => exact .refl _
  | tail _ hab ih =>
    obtain ⟨e, h1, h2, h3, h4⟩ := hab
    exact .tail ih ⟨e, h1, h2, h3, by rw [← he]; exact h4⟩

/-! ### monotonicity in the view -/

def View.le (w w' : View) : Prop := (∀ u, w.okNode u = true → w'.okNode u = true) ∧ w.okEdge = w'.okEdge

theorem vsuccs_mono {g : Graph} {w w' : View} (h : w.le w') {x y : Node} (hy : y ∈ g.vsuccs w x) : y ∈ g.vsuccs w' x := by
  simp only [vsuccs, List.mem_map, List.mem_filter, Bool.and_eq_true, beq_iff_eq] at hy ⊢
  obtain ⟨e, ⟨he, ⟨⟨⟨hu, hok⟩, h1⟩, h2⟩⟩, hv⟩ := hy
  exact ⟨e, ⟨he, ⟨⟨⟨hu, by rw [← h.2]; exact hok⟩, h.1 _ h1⟩, h.1 _ h2⟩⟩, hv⟩

theorem expand_mono {g : Graph} {w w' : View} (h : w.le w') {S S' : List Node} (hS : ∀ y ∈ S, y ∈ S') :
    ∀ y ∈ g.expand w S, y ∈ g.expand w' S' := by
  intro y hy
  rcases mem_expand.mp hy with h1 | ⟨x, hx, hyx⟩
  · exact mem_expand.mpr (Or.inl (hS y h1))
  · exact mem_expand.mpr (Or.inr ⟨x, hS x hx, vsuccs_mono h hyx⟩)

theorem reachFuel_mono {g : Graph} {w w' : View} (h : w.le w') : ∀ (f : Nat) (S S' : List Node),
    (∀ y ∈ S, y ∈ S') → ∀ y ∈ g.reachFuel w f S, y ∈ g.reachFuel w' f S' := by
  intro f
  induction f with
  | zero => intro S S' hS y hy; exact hS y hy
  | succ f ih => intro S S' hS y hy; simp only [reachFuel] at hy ⊢; exact ih _ _ (expand_mono h hS) y hy

theorem reachSet_mono {g : Graph} {w w' : View} (h : w.le w') {a y : Node} (hy : y ∈ g.reachSet w a) :
    y ∈ g.reachSet w' a := by
  unfold reachSet at *
  exact reachFuel_mono h _ _ _ (fun z hz => hz) y hy

end MLPE.Graph
