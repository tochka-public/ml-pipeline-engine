import MLPE.Proofs.Acts
import MLPE.Proofs.KwArgs
import MLPE.Proofs.Retry

/-!
# Budget: every body call is within the attempts budget; `get_default` only for nodes that opt in

All programs, all schedules.  Every frame of every suspended task is `FOK` (an attempt number carried by a frame is within
the budget — strictly, when a further attempt is due —, a forced default belongs to a node with `use_default`, the kwargs
carried are what `_get_node_kwargs` builds, `KwGood`), and every
observation is `OOK` (`body n inv k kw` has `1 ≤ k ≤ attempts`, `dflt n kw` is emitted only for a node with
`use_default = True`); both are kept by every action of a section (`Proofs/Acts.lean`).
-/
namespace MLPE.Eng
open MLPE

/-- the keyword arguments of node `n` are what `_get_node_kwargs` builds: the caller's kwargs for the input node, one entry
per declared parameter otherwise (`Proofs/KwArgs.lean`) -/
def KwGood (P : Program) (n : Node) (kw : Kwargs) : Prop :=
  ((n == P.g.input) = true → KwIn P kw) ∧ ((n == P.g.input) = false → KwOK P n kw)

def FOK (P : Program) : Frame → Prop
  | .node _ n force pc =>
      (force = true → (P.cfg n).useDefault = true) ∧
      (match pc with
       | .body k kw _ => (1 ≤ k ∧ k ≤ (P.cfg n).attemptsEff) ∧ KwGood P n kw
       | .sleep k kw _ => (1 ≤ k ∧ k < (P.cfg n).attemptsEff) ∧ KwGood P n kw
       | .cbRetry _ k kw _ => (1 ≤ k ∧ k < (P.cfg n).attemptsEff) ∧ KwGood P n kw
       | _ => True)
  | _ => True

def OOK (P : Program) : Obs → Prop
  | .body n _ k kw => (1 ≤ k ∧ k ≤ (P.cfg n).attemptsEff) ∧ KwGood P n kw
  | .dflt n kw => (P.cfg n).useDefault = true ∧ KwGood P n kw
  | _ => True

def FsOK (P : Program) (fs : List Frame) : Prop := ∀ f ∈ fs, FOK P f
def BInv (P : Program) (s : St) : Prop := ∀ fs ∈ stacks s, FsOK P fs
def OsOK (P : Program) (obs : List Obs) : Prop := ∀ o ∈ obs, OOK P o

theorem FsOK.nil (P : Program) : FsOK P [] := fun _ h => by cases h
theorem FsOK.cons {P : Program} {f : Frame} {fs : List Frame} (hf : FOK P f) (h : FsOK P fs) : FsOK P (f :: fs) := by
  intro x hx
  rcases List.mem_cons.mp hx with rfl | hx
  · exact hf
  · exact h x hx
theorem FsOK.tail {P : Program} {f : Frame} {fs : List Frame} (h : FsOK P (f :: fs)) : FsOK P fs :=
  fun x hx => h x (List.mem_cons_of_mem _ hx)
theorem FsOK.head {P : Program} {f : Frame} {fs : List Frame} (h : FsOK P (f :: fs)) : FOK P f :=
  h f (List.mem_cons_self ..)

theorem OsOK.nil (P : Program) : OsOK P [] := fun _ h => by cases h
theorem OsOK.snoc {P : Program} {obs : List Obs} (h : OsOK P obs) (o : Obs) (ho : OOK P o) : OsOK P (obs ++ [o]) := by
  intro x hx
  rcases List.mem_append.mp hx with hx | hx
  · exact h x hx
  · simp at hx; subst hx; exact ho

theorem BInv.same {P : Program} {s s' : St} (h : BInv P s) (hs : SameL s s') : BInv P s' := by
  unfold BInv; rw [hs.1]; exact h

theorem BInv.spawned {P : Program} {s : St} (h : BInv P s) (fr : Frame) (nm : TaskName) (hf : FOK P fr) :
    BInv P (Eng.spawn s [fr] nm).1 := by
  have hst := stacks_spawn s fr nm
  unfold BInv; rw [hst]
  intro fs hfs
  rcases List.mem_append.mp hfs with h1 | h1
  · exact h fs h1
  · simp at h1; subst h1; exact FsOK.cons hf (FsOK.nil P)

theorem BInv.setTask {P : Program} {s : St} (h : BInv P s) (t : Nat) (tk' : Task) (hf : FsOK P tk'.frames) :
    BInv P (s.setTask t tk') := by
  unfold BInv; rw [stacks_setTask]
  intro fs hfs
  rcases List.mem_or_eq_of_mem_set hfs with h1 | h1
  · exact h fs h1
  · subst h1; exact hf

theorem stack_ok {P : Program} {s : St} (h : BInv P s) {t : Nat} {tk : Task} (htk : s.tasks[t]? = some tk) :
    FsOK P tk.frames := by
  apply h
  have : (stacks s)[t]? = some tk.frames := by simp [stacks, htk]
  exact List.mem_of_getElem? this

/-! ### the actions of a section -/

def BQ (c : Ctx) (x : Conf) : Prop := BInv c.P x.s ∧ OsOK c.P x.obs ∧ FsOK c.P x.fs

theorem OOK.of_quiet (P : Program) {o : Obs} (h : o.quiet = true) : OOK P o := by
  cases o <;> first | trivial | cases h

theorem FOK.of_fresh (P : Program) {fr : Frame} (h : fr.fresh = true) : FOK P fr := by
  cases fr with
  | node d n force pc => cases pc <;> cases force <;> first | (cases h; done) | exact ⟨nofun, trivial⟩
  | _ => trivial

/-- the attempt number moves only along `start → 1 → … → attempts`: a further attempt follows a retry, and a retry is
decided only while `k ≠ attempts` -/
theorem bq_act {c : Ctx} {x y : Conf} (a : Act c x y) (h : BQ c x) : BQ c y := by
  obtain ⟨hi, ho, hf⟩ := h
  cases a with
  | resched r => exact ⟨hi.same (.of_resched r), ho, hf⟩
  | silent e => exact ⟨hi.same (.of_silent e), ho, hf⟩
  | emit o hq => exact ⟨hi, ho.snoc o (.of_quiet _ hq), hf⟩
  | spawn fr nm hfr => exact ⟨hi.spawned fr nm (.of_fresh _ hfr), ho, hf⟩
  | pop => exact ⟨hi, ho, hf.tail⟩
  | push f hin => exact ⟨hi, ho, .cons (by cases f <;> first | trivial | cases hin) hf⟩
  | refresh ns => exact ⟨hi.same (sameL_refresh ..), ho, hf⟩
  | iterFirst => exact ⟨hi, ho, .cons trivial hf⟩
  | iterNext => exact ⟨hi, ho, .cons trivial hf.tail⟩
  | forcedFirst _ hd => exact ⟨hi, ho, .cons (by exact ⟨fun _ => hd, trivial⟩) (.cons trivial hf)⟩
  | forcedNext hd => exact ⟨hi, ho, .cons (by exact ⟨fun _ => hd, trivial⟩) (.cons trivial hf.tail)⟩
  | nodeWait => exact ⟨hi, ho, .cons (by exact ⟨hf.head.1, trivial⟩) hf.tail⟩
  | nodeStart => exact ⟨hi, ho.snoc _ trivial, .cons (by exact ⟨hf.head.1, trivial⟩) hf.tail⟩
  | nodeCb hpc hfo =>
    refine ⟨hi, ho, .cons ⟨fun e => ?_, ?_⟩ hf.tail⟩
    · rcases hfo with rfl | rfl
      · exact hf.head.1 e
      · cases e
    · cases hpc <;> first | trivial | exact hf.head.2
  | nodeArgs hkw =>
    exact ⟨hi, ho, .cons (by exact ⟨hf.head.1, ⟨Nat.le_refl 1, Retry.attemptsEff_pos _⟩, nodeKwargs_ok _ _ _ _ hkw⟩) hf.tail⟩
  | nodeNext => exact ⟨hi, ho, .cons (by exact ⟨hf.head.1, ⟨by omega, hf.head.2.1.2⟩, hf.head.2.2⟩) hf.tail⟩
  | nodeCall => exact ⟨hi, ho.snoc _ hf.head.2, hf⟩
  | nodeRetry hk => exact ⟨hi, ho, .cons (by exact ⟨hf.head.1, ⟨hf.head.2.1.1, by have := hf.head.2.1.2; omega⟩, hf.head.2.2⟩) hf.tail⟩
  | nodeSleep => exact ⟨hi, ho, .cons (by exact ⟨hf.head.1, hf.head.2⟩) hf.tail⟩
  | nodeDflt hd => exact ⟨hi, ho.snoc _ (by exact ⟨hd.elim hf.head.1 id, hf.head.2.2⟩), hf⟩
  | nodeFail => exact ⟨hi, ho, .cons (by exact ⟨nofun, trivial⟩) hf.tail⟩
  | nodeOk | nodeSave => exact ⟨hi, ho.snoc _ trivial, .cons (by exact ⟨nofun, trivial⟩) hf.tail⟩

theorem bq_callerAct {c : Ctx} {x y : Conf} (a : CallerAct c x y) (h : BQ c x) : BQ c y := by
  cases a with
  | engine a => exact bq_act a h
  | cbStart | begin | cbComplete => exact ⟨h.1, h.2.1, .cons trivial (.nil _)⟩
  | start | complete => exact ⟨h.1, h.2.1.snoc _ trivial, .cons trivial (.nil _)⟩
  | again => exact ⟨h.1, h.2.1.snoc _ trivial, h.2.2⟩

theorem bq_finish {c : Ctx} {s : St} {obs : List Obs} {fs : List Frame} (h : BQ c ⟨s, obs, fs⟩) (st : TaskSt) :
    BInv c.P (finish c s obs fs st).1 ∧ OsOK c.P (finish c s obs fs st).2 := by
  unfold finish
  split
  · exact ⟨h.1, h.2.1⟩
  · split
    · exact ⟨h.1.setTask _ _ h.2.2, h.2.1.snoc _ trivial⟩
    · exact ⟨h.1.setTask _ _ h.2.2, h.2.1⟩

/-- **every execution** (all programs, all schedules): every frame and every observation is within the budget -/
theorem budget_exec {P : Program} {s : St} {log : List Obs} (h : Exec P s log) : BInv P s ∧ OsOK P log := by
  induction h with
  | init =>
    refine ⟨fun fs hfs => ?_, OsOK.nil _⟩
    cases List.mem_singleton.mp hfs
    exact .cons trivial (.nil _)
  | step _ hs ih =>
    have app : ∀ {obs}, OsOK P obs → OsOK P (_ ++ obs) := fun hb o ho => (List.mem_append.mp ho).elim (ih.2 o) (hb o)
    rcases step_cases hs with ⟨t, ord, pick, -, hst⟩ | ⟨hr, ho⟩
    · obtain ⟨tk, htk, hr⟩ := stepTask_runs hst
      have := hr.post (Q := BQ _) (Post := fun out => BInv P out.1 ∧ OsOK P out.2) (fun _ _ => bq_callerAct)
        (fun _ _ _ st hq => bq_finish hq st) (fun _ _ ho => ho) ⟨ih.1, OsOK.nil _, stack_ok ih.1 htk⟩
      exact ⟨this.1, app this.2⟩
    · cases ho; exact ⟨ih.1.same (.of_resched hr), app (OsOK.nil _)⟩

end MLPE.Eng
