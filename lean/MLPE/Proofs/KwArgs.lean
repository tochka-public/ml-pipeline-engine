import MLPE.Proofs.EngBasic

/-!
# The keyword arguments `_get_node_kwargs` builds (pure facts about `nodeKwargs`, any state)

For a node other than the input node: one entry per declared parameter (the `kwarg` names of its incoming edges), no other
key except `additional_data`, no key twice, and no declared parameter bound to an exception object (a dependency that failed
inside a one-of scope makes the call fail instead).  For the input node: the caller's kwargs, plus `additional_data`.
-/
namespace MLPE.Eng
open MLPE

def keysOf (kw : Kwargs) : List String := kw.map (·.1)

/-- the parameter names declared for `n`: the `kwarg` attributes of its incoming edges -/
def declared (P : Program) (n : Node) : List String :=
  (P.g.edges.filter (fun e => e.v == n)).filterMap (·.kwarg)

structure KwOK (P : Program) (n : Node) (kw : Kwargs) : Prop where
  only   : ∀ k ∈ keysOf kw, k = "additional_data" ∨ k ∈ declared P n
  all    : ∀ k ∈ declared P n, k ∈ keysOf kw
  once   : (keysOf kw).Nodup
  noExc  : ∀ k v, (k, v) ∈ kw → k ≠ "additional_data" → v.isExc = false

/-- what the input node gets: the caller's kwargs, plus the restart data when it is the start node of a subgraph -/
def KwIn (P : Program) (kw : Kwargs) : Prop :=
  kw = P.inputKw ∨ ∃ v, kw = insertKw P.inputKw "additional_data" v

/-! ### `insertKw` -/

theorem insertKw_perm (kw : Kwargs) (k : String) (v : Val) :
    (insertKw kw k v).Perm ((k, v) :: kw.filter (·.1 != k)) := by
  simp only [insertKw, List.partition_eq_filter_filter, List.append_assoc, List.singleton_append]
  exact List.perm_middle.trans ((List.filter_append_perm _ _).cons _)

theorem mem_insertKw {kw : Kwargs} {k : String} {v : Val} {a : String} {b : Val} :
    (a, b) ∈ insertKw kw k v ↔ (a, b) = (k, v) ∨ ((a, b) ∈ kw ∧ a ≠ k) := by
  rw [(insertKw_perm kw k v).mem_iff, List.mem_cons, List.mem_filter, bne_iff_ne]

theorem insertKw_self (kw : Kwargs) (k : String) (v : Val) : (k, v) ∈ insertKw kw k v :=
  mem_insertKw.mpr (Or.inl rfl)

theorem mem_keys_filter (kw : Kwargs) (k a : String) : a ∈ keysOf (kw.filter (·.1 != k)) ↔ a ∈ keysOf kw ∧ a ≠ k := by
  simp only [keysOf, List.mem_map, List.mem_filter, bne_iff_ne]
  constructor
  · rintro ⟨x, ⟨hx, hne⟩, rfl⟩; exact ⟨⟨x, hx, rfl⟩, hne⟩
  · rintro ⟨⟨x, hx, rfl⟩, hne⟩; exact ⟨x, ⟨hx, hne⟩, rfl⟩

theorem keys_insertKw (kw : Kwargs) (k : String) (v : Val) (a : String) :
    a ∈ keysOf (insertKw kw k v) ↔ a = k ∨ a ∈ keysOf kw := by
  rw [keysOf, ((insertKw_perm kw k v).map _).mem_iff, List.map_cons, List.mem_cons, ← keysOf, mem_keys_filter]
  by_cases h : a = k <;> simp [h]

theorem nodup_insertKw {kw : Kwargs} (h : (keysOf kw).Nodup) (k : String) (v : Val) : (keysOf (insertKw kw k v)).Nodup := by
  rw [keysOf, ((insertKw_perm kw k v).map _).nodup_iff, List.map_cons, List.nodup_cons, ← keysOf, mem_keys_filter]
  exact ⟨fun h => h.2 rfl, (List.Sublist.map _ List.filter_sublist).nodup h⟩

/-! ### the fold of `_get_node_kwargs` over the incoming edges -/

/-- invariant of the fold: `done` are the edges processed so far -/
structure KwPre (done : List Edge) (kw : Kwargs) : Prop where
  only  : ∀ k ∈ keysOf kw, k ∈ done.filterMap (·.kwarg)
  all   : ∀ k ∈ done.filterMap (·.kwarg), k ∈ keysOf kw
  once  : (keysOf kw).Nodup
  noExc : ∀ k v, (k, v) ∈ kw → v.isExc = false

theorem kwPut_of_not_exc (kw : Kwargs) (k : String) {v : Val} (h : v.isExc = false) : kwPut kw k v = .ok (insertKw kw k v) := by
  cases v with
  | exc x => cases h
  | _ => rfl

theorem kwPut_ok' {kw kw1 : Kwargs} {k : String} {v : Val} (h : kwPut kw k v = .ok kw1) :
    kw1 = insertKw kw k v ∧ v.isExc = false := by
  cases v with
  | exc x => cases h
  | _ => cases h; exact ⟨rfl, rfl⟩

theorem kwStep_ok {P : Program} {s : St} {kw kw1 : Kwargs} {e : Edge} (h : kwStep P s (.ok kw) e = .ok kw1) :
    (e.kwarg = none ∧ kw1 = kw) ∨
    ∃ k src, e.kwarg = some k ∧ kw1 = insertKw kw k (s.getHid src) ∧ (s.getHid src).isExc = false := by
  unfold kwStep at h
  cases hek : e.kwarg with
  | none => rw [hek] at h; cases h; exact .inl ⟨rfl, rfl⟩
  | some k =>
    simp only [hek] at h
    refine .inr ⟨k, ?_⟩
    split at h
    · split at h
      · next hie => exact absurd hie (by rw [St.isErr, (kwPut_ok' h).2]; simp)
      · split at h
        · exact ⟨_, rfl, kwPut_ok' h⟩
        · cases h
    · exact ⟨_, rfl, kwPut_ok' h⟩

theorem kwStep_pre (P : Program) (s : St) {done : List Edge} {kw kw1 : Kwargs} (h : KwPre done kw) (e : Edge)
    (h1 : kwStep P s (.ok kw) e = .ok kw1) : KwPre (done ++ [e]) kw1 := by
  rcases kwStep_ok h1 with ⟨hek, rfl⟩ | ⟨k, src, hk, rfl, hv⟩
  · have hfm : (done ++ [e]).filterMap (·.kwarg) = done.filterMap (·.kwarg) := by simp [List.filterMap_append, hek]
    exact ⟨by rw [hfm]; exact h.only, by rw [hfm]; exact h.all, h.once, h.noExc⟩
  · have hfm : ∀ a, a ∈ (done ++ [e]).filterMap (·.kwarg) ↔ a ∈ done.filterMap (·.kwarg) ∨ a = k := by
      intro a; simp [List.filterMap_append, hk]
    refine ⟨fun a ha => ?_, fun a ha => ?_, nodup_insertKw h.once k _, fun a b hab => ?_⟩
    · rcases (keys_insertKw kw k _ a).mp ha with rfl | h2
      · exact (hfm _).mpr (Or.inr rfl)
      · exact (hfm _).mpr (Or.inl (h.only a h2))
    · rcases (hfm a).mp ha with h2 | rfl
      · exact (keys_insertKw kw k _ a).mpr (Or.inr (h.all a h2))
      · exact (keys_insertKw kw a _ a).mpr (Or.inl rfl)
    · rcases mem_insertKw.mp hab with h2 | h2
      · cases h2; exact hv
      · exact h.noExc a b h2.1

theorem fold_err (P : Program) (s : St) (x : Exc) : ∀ es : List Edge, es.foldl (kwStep P s) (.err x) = .err x
  | [] => rfl
  | e :: es => by simp only [List.foldl, kwStep]; exact fold_err P s x es

theorem fold_ok (P : Program) (s : St) {I : List Edge → Kwargs → Prop}
    (step : ∀ (done : List Edge) (kw : Kwargs) (e : Edge) (kw1 : Kwargs), I done kw → kwStep P s (.ok kw) e = .ok kw1 →
      I (done ++ [e]) kw1) :
    ∀ (es done : List Edge) (kw kw1 : Kwargs), I done kw → es.foldl (kwStep P s) (.ok kw) = .ok kw1 → I (done ++ es) kw1
  | [], done, kw, kw1, h, h1 => by
    simp only [List.foldl] at h1; cases h1; simpa using h
  | e :: es, done, kw, kw1, h, h1 => by
    simp only [List.foldl] at h1
    cases hs : kwStep P s (.ok kw) e with
    | err x => rw [hs, fold_err] at h1; cases h1
    | ok kw2 =>
      rw [hs] at h1
      simpa using fold_ok P s step es (done ++ [e]) kw2 kw1 (step done kw e kw2 h hs) h1

theorem nodeKwargs_base {P : Program} {s : St} {n : Node} {kw : Kwargs} (h : nodeKwargs P s n = .ok kw) :
    ∃ kw0, kwBase P s n = .ok kw0 ∧ (kw = kw0 ∨ ∃ v, kw = insertKw kw0 "additional_data" v) := by
  unfold nodeKwargs at h
  split at h
  · next kw0 v0 hb _ =>
    split at h <;> cases h
    · exact ⟨_, hb, Or.inl rfl⟩
    · exact ⟨kw0, hb, Or.inr ⟨v0, rfl⟩⟩
  · exact ⟨kw, h, Or.inl rfl⟩

/-- **what `_get_node_kwargs` returns** (any state): for the input node the caller's kwargs (plus the restart data), for any
other node exactly one entry per declared parameter, `additional_data` at most in addition, never an exception object as
the value of a declared parameter -/
theorem nodeKwargs_ok (P : Program) (s : St) (n : Node) (kw : Kwargs) (h : nodeKwargs P s n = .ok kw) :
    ((n == P.g.input) = true → KwIn P kw) ∧ ((n == P.g.input) = false → KwOK P n kw) := by
  obtain ⟨kw0, hb, hkw⟩ := nodeKwargs_base h
  constructor
  · intro hn
    simp only [kwBase, hn, if_true] at hb
    cases hb
    exact hkw
  · intro hn
    simp only [kwBase, hn, Bool.false_eq_true, if_false] at hb
    have hp : KwPre (P.g.edges.filter (fun e => e.v == n)) kw0 := by
      simpa using fold_ok P s (I := KwPre) (fun _ _ e _ h => kwStep_pre P s h e) _ [] [] kw0
        ⟨nofun, nofun, List.nodup_nil, nofun⟩ hb
    rcases hkw with rfl | ⟨v, rfl⟩
    · exact ⟨fun k hk => Or.inr (hp.only k hk), hp.all, hp.once, fun k v hkv _ => hp.noExc k v hkv⟩
    · refine ⟨fun k hk => ?_, fun k hk => ?_, nodup_insertKw hp.once _ _, fun k v hkv hne => ?_⟩
      · exact ((keys_insertKw _ _ _ _).mp hk).imp id (hp.only k)
      · exact (keys_insertKw _ _ _ _).mpr (Or.inr (hp.all k hk))
      · rcases mem_insertKw.mp hkv with h2 | h2
        · cases h2; exact absurd rfl hne
        · exact hp.noExc k v h2.1

end MLPE.Eng
