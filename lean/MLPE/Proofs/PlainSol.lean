import MLPE.Proofs.PlainRun

/-!
# The dataflow equations of a plain pipeline: failure propagates to the output, a solution exists
-/
namespace MLPE.Eng
open MLPE

variable {val : Node → Option Val}

def FeedsOutput (P : Program) (d : DagRef) : Prop :=
  ∀ n ∈ d.nodes, n ≠ P.g.output → ∃ m ∈ d.nodes, n ∈ P.g.preds m

theorem posOf_lt_length {l : List Node} {n : Node} (h : n ∈ l) : posOf l n < l.length := by
  unfold posOf
  exact List.findIdx_lt_length_of_exists ⟨n, h, by simp⟩

/-- **a node without a value leaves the output without a value** (every node of the DAG feeds the output) -/
theorem val_none_propagates {P : Program} {d : DagRef} (hs : Solution P d val) {ord : List Node}
    (ht : TopoOrd P d ord) (hf : FeedsOutput P d) :
    ∀ (k : Nat) (n : Node), n ∈ d.nodes → ord.length - posOf ord n ≤ k → val n = none → val P.g.output = none := by
  intro k
  induction k with
  | zero =>
    intro n hn hk _
    have := posOf_lt_length ((ht.same n).mpr hn)
    omega
  | succ k ih =>
    intro n hn hk hv
    by_cases hno : n = P.g.output
    · rw [← hno]; exact hv
    · obtain ⟨m, hm, hnm⟩ := hf n hn hno
      have hlt := ht.before m ((ht.same m).mpr hm) n hnm
      have hml := posOf_lt_length ((ht.same m).mpr hm)
      have hvm : val m = none := by
        rw [hs.eq m hm]
        have : (P.g.preds m).all (fun p => (val p).isSome) = false := by
          rw [List.all_eq_false]
          exact ⟨n, hnm, by simp [hv]⟩
        simp [this]
      exact ih m hm (by omega) hvm

theorem solveList_not_mem (P : Program) : ∀ (l : List Node) (val : Node → Option Val) (m : Node), m ∉ l →
    solveList P l val m = val m
  | [], _, _, _ => rfl
  | n :: rest, val, m, hm => by
    simp only [solveList]
    rw [solveList_not_mem P rest _ m (fun h => hm (by simp [h]))]
    have : m ≠ n := fun h => hm (by simp [h])
    simp [this]

theorem predsOk_congr (P : Program) (v1 v2 : Node → Option Val) (n : Node) (h : ∀ p ∈ P.g.preds n, v1 p = v2 p) :
    predsOk P v1 n = predsOk P v2 n := by
  unfold predsOk
  exact all_congr_mem _ _ _ fun p hp => by rw [h p hp]

theorem solveList_head (P : Program) (rest : List Node) (val val' : Node → Option Val) (n : Node) (ha_not : n ∉ rest)
    (hpre_not : ∀ p ∈ P.g.preds n, p ∉ n :: rest)
    (hn : val' n = if predsOk P val n then valueOf P n (kwFrom P val n) else none)
    (ho : ∀ p, p ≠ n → val' p = val p) :
    solveList P rest val' n =
      if predsOk P (solveList P rest val') n then valueOf P n (kwFrom P (solveList P rest val') n) else none := by
  have hsame : ∀ p ∈ P.g.preds n, solveList P rest val' p = val p := by
    intro p hp
    have hnp := hpre_not p hp
    rw [solveList_not_mem P rest val' p (fun h => hnp (by simp [h]))]
    exact ho p (fun h => hnp (by simp [h]))
  rw [solveList_not_mem P rest val' n ha_not]
  rw [predsOk_congr P _ val n hsame, kwFrom_congr P _ val n hsame]
  exact hn

/-- `pre` stands for the nodes evaluated before `l` (the induction moves the head of `l` there): a source of a node of `l`
comes earlier in `pre ++ l`, not necessarily in `l` -/
theorem solveList_eq (P : Program) : ∀ (l pre : List Node) (val : Node → Option Val), (pre ++ l).Nodup →
    (∀ n ∈ l, ∀ p ∈ P.g.preds n, posOf (pre ++ l) p < posOf (pre ++ l) n) →
    ∀ n ∈ l, solveList P l val n =
      if predsOk P (solveList P l val) n then valueOf P n (kwFrom P (solveList P l val) n) else none
  | [], _, _, _, _ => by intro n hn; simp at hn
  | a :: rest, pre, val, hnd, hbefore => by
    intro n hn
    have hnd' : ((pre ++ [a]) ++ rest).Nodup := by simpa using hnd
    have hbefore' : ∀ n ∈ rest, ∀ p ∈ P.g.preds n, posOf ((pre ++ [a]) ++ rest) p < posOf ((pre ++ [a]) ++ rest) n := by
      intro n hn p hp
      have := hbefore n (by simp [hn]) p hp
      simpa using this
    simp only [solveList]
    rcases List.mem_cons.mp hn with rfl | hnr
    · -- the head: later updates touch neither it nor its sources
      have ha_not : n ∉ rest := (List.nodup_cons.mp (List.nodup_append.mp hnd).2.1).1
      have hpre_not : ∀ p ∈ P.g.preds n, p ∉ n :: rest := fun p hp hmem =>
        (List.nodup_append.mp hnd).2.2 p (mem_of_posOf_lt hnd (hbefore n (by simp) p hp)) p hmem rfl
      exact solveList_head P rest val _ n ha_not hpre_not (by simp) (by intro p hp; simp [hp])
    · exact solveList_eq P rest (pre ++ [a]) _ hnd' hbefore' n hnr

/-- **the dataflow equations of an acyclic plain pipeline have a solution** -/
theorem solution_exists (P : Program) (d : DagRef) (ord : List Node) (ht : TopoOrd P d ord) :
    ∃ val, Solution P d val := by
  refine ⟨solveList P ord (fun _ => none), ⟨fun n hn => ?_⟩⟩
  exact solveList_eq P ord [] (fun _ => none) (by simpa using ht.nodup)
    (by intro n hn p hp; simpa using ht.before n hn p hp) n ((ht.same n).mpr hn)

end MLPE.Eng
