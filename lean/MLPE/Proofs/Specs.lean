import MLPE.LiveSpec
import MLPE.Proofs.Retry
import MLPE.Proofs.EngBasic

/-!
# What more than one invariant assumes and compares with

* The dataflow reading of a pipeline's ordinary nodes: why a node or a run fails (`NodeFails`, `CollabFails`) and `Att`, the
  link between an attempt in progress in the engine and the retry / default policy applied to the node's dataflow arguments
  — shared by the plain invariant (`Proofs/Plain.lean`) and the switch / one-of invariant (`Proofs/Safe.lean`); for plain
  pipelines also the dataflow equations themselves (`Solution`, `FailCause`, `Track`; `Safe.lean` has its own, with switches
  and one-ofs: `SolutionOne`, `ErrCause`).
* The structural hypotheses `OneP` / `SwP` of the fragments with one-ofs and switches — shared by `Proofs/Safe.lean` and the
  liveness proof (`Proofs/Live*.lean`).
* What the readiness check of a node looks at when the node is no one-of head and the DAG is not a recurrent subgraph
  (`predsFor_eq`, `ready_eq`) — used by all three.
-/
namespace MLPE.Eng
open MLPE
variable {val : Node → Option Val}

/-- `val` solves the dataflow equations of the pipeline: a node has a value iff all its sources have one and the
retry / default policy applied to its body on those values yields one -/
structure Solution (P : Program) (d : DagRef) (val : Node → Option Val) : Prop where
  eq : ∀ n ∈ d.nodes, val n =
    if (P.g.preds n).all (fun p => (val p).isSome) then valueOf P n (kwFrom P val n) else none

/-- node `n` fails with `e`: all its sources have values and the policy ends with the failure `e` -/
def NodeFails (P : Program) (val : Node → Option Val) (n : Node) (e : Exc) : Prop :=
  (P.g.preds n).all (fun p => (val p).isSome) = true ∧ finalOf P n (kwFrom P val n) = some (.failed e)

theorem value_of_final {P : Program} {n : Node}
    (heq : val n = if (P.g.preds n).all (fun p => (val p).isSome) then valueOf P n (kwFrom P val n) else none)
    (hpr : (P.g.preds n).all (fun p => (val p).isSome) = true) {v : Val}
    (hf : finalOf P n (kwFrom P val n) = some (.value v) ∨
          (finalOf P n (kwFrom P val n) = some .default ∧ v = P.dflt n (kwFrom P val n))) : val n = some v := by
  rw [heq, hpr]
  simp only [if_true, valueOf]
  rcases hf with h | ⟨h, rfl⟩ <;> rw [h]

theorem none_of_failed {P : Program} {n : Node} {e : Exc}
    (heq : val n = if (P.g.preds n).all (fun p => (val p).isSome) then valueOf P n (kwFrom P val n) else none)
    (hf : NodeFails P val n e) : val n = none := by
  rw [heq, hf.1]
  simp only [if_true, valueOf, hf.2]

/-- a collaborator (event manager callback or artifact store) raises `e` -/
def CollabFails (P : Program) (e : Exc) : Prop := ∃ cb m, P.cbRaise cb m = some e

/-- why a run may fail with `e`: a node of the pipeline fails with it, or a collaborator raises it -/
def FailCause (P : Program) (d : DagRef) (val : Node → Option Val) (e : Exc) : Prop :=
  (∃ n ∈ d.nodes, NodeFails P val n e) ∨ CollabFails P e

/-- attempt `k` of the (only) invocation of node `n` is the next one / is in progress -/
structure Att (P : Program) (val : Node → Option Val) (n : Node) (k : Nat) (kw : Kwargs) (inv : Nat) : Prop where
  kw_eq : kw = kwFrom P val n
  preds : (P.g.preds n).all (fun p => (val p).isSome) = true
  inv0  : inv = 0
  kpos  : 1 ≤ k
  kle   : k ≤ (P.cfg n).attemptsEff
  pre   : ∀ j, 1 ≤ j → j < k → Retry.decide (P.cfg n) j (P.body n kw 0 j) = .retry

/-- value tracking is conditional on `val` being a solution (so that `pinv_not_stuck`, which says nothing about values, needs
none) -/
def Track (P : Program) (d : DagRef) (val : Node → Option Val) (X : Prop) : Prop := Solution P d val → X

theorem Att.final {P : Program} {n k inv : Nat} {kw : Kwargs} (a : Att P val n k kw inv) (f : Retry.Final)
    (hd : Retry.decide (P.cfg n) k (P.body n kw inv k) = .done f) : finalOf P n (kwFrom P val n) = some f := by
  obtain ⟨hkw, _, hinv, h1, h2, hpre⟩ := a
  subst hinv
  rw [← hkw]
  unfold finalOf
  rw [Retry.run_of_decide (P.cfg n) (fun j => P.body n kw 0 j) f k h1 h2 hpre hd]

theorem Att.next {P : Program} {n k inv : Nat} {kw : Kwargs} (a : Att P val n k kw inv)
    (hd : Retry.decide (P.cfg n) k (P.body n kw inv k) = .retry) : Att P val n (k + 1) kw inv := by
  obtain ⟨hkw, hpr, hinv, h1, h2, hpre⟩ := a
  obtain ⟨e, _, _, hne⟩ := (Retry.decide_retry_iff _ _ _).mp hd
  refine ⟨hkw, hpr, hinv, by omega, by omega, ?_⟩
  intro j hj1 hj2
  by_cases hjk : j = k
  · subst hjk; subst hinv; exact hd
  · exact hpre j hj1 (by omega)

/-! ### pipelines with switches and one-ofs -/

/-- the candidates of one-of head `h`, in declared order -/
def cands (P : Program) (h : Node) : List Node := (P.g.attr h).oneofNodes

def HasHeads (P : Program) : Prop := ∃ h, P.g.isOneofHead h = true

/-- an ordinary node: neither a synthetic switch node nor a synthetic one-of head -/
def Ord (P : Program) (n : Node) : Prop := P.g.isSwitch n = false ∧ P.g.isOneofHead n = false

/-- programs with switches and one-ofs (any nesting), no recurrent subgraph -/
structure OneP (P : Program) : Prop where
  noRecur  : ∀ n kw i k v, P.body n kw i k = .ret v → v.isRecur = false ∧ v.isExc = false
  noRecurD : ∀ n kw, (P.dflt n kw).isRecur = false ∧ (P.dflt n kw).isExc = false
  /-- every `get_default` returns (a failing default is outside this fragment; the engine model covers it) -/
  dfltOk   : ∀ n, P.dfltRaise n = none
  /-- decision nodes are ordinary nodes (the builder refers to them by their class) -/
  decPlain : ∀ e ∈ P.g.edges, e.isSwitch = true → P.g.isSwitch e.u = false
  /-- the edges into a synthetic switch node are its decision edge and its case edges -/
  swEdges  : ∀ e ∈ P.g.edges, P.g.isSwitch e.v = true → e.isSwitch = true ∨ e.case.isSome = true
  /-- a switch has at most one decision edge -/
  decUnique : ∀ S, ((P.g.edges.filter (fun e => e.v == S)).filter (·.isSwitch)).length ≤ 1
  inOut    : P.g.input ≠ P.g.output
  inIn     : P.g.input ∈ P.g.nodes ∧ (P.g.attr P.g.input).isOneofChild = false
  outIn    : P.g.output ∈ P.g.nodes ∧ (P.g.attr P.g.output).isOneofChild = false
  headPlain : ∀ h, P.g.isOneofHead h = true → P.g.isSwitch h = false
  /-- the edges into a synthetic one-of head come from its candidates and from the input node -/
  headEdges : ∀ e ∈ P.g.edges, P.g.isOneofHead e.v = true → (cands P e.v).contains e.u = true ∨ e.u = P.g.input
  /-- the input node is the root -/
  inRoot   : ∀ e ∈ P.g.edges, e.v ≠ P.g.input
  /-- an edge into an ordinary node that carries no parameter comes from the input node -/
  kwEdges  : ∀ e ∈ P.g.edges, P.g.isSwitch e.v = false ∧ P.g.isOneofHead e.v = false → e.kwarg = none → e.u = P.g.input
  /-- an opened candidate is a node of the graph that the input node reaches in the filtered view -/
  candReach : ∀ (h c : Node) (s : St), P.g.isOneofHead h = true → c ∈ cands P h → s.opened c = true →
    c ∈ P.g.nodes ∧ c ≠ P.g.input ∧ c ∈ P.g.reachSet (filteredView P s) P.g.input

/-- programs with switches only -/
structure SwP (P : Program) : Prop extends OneP P where
  noHead   : ∀ n, P.g.isOneofHead n = false

theorem two_nodes {P : Program} (hsw : OneP P) : 2 ≤ P.g.nodes.length := by
  have h1 := hsw.inIn.1
  have h2 := hsw.outIn.1
  have hne := hsw.inOut
  match hl : P.g.nodes with
  | [] => rw [hl] at h1; cases h1
  | [x] =>
    rw [hl, List.mem_singleton] at h1 h2
    exact absurd (h1.trans h2.symm) hne
  | _ :: _ :: _ => simp

/-- the input and the output node are always visible: a reduced DAG is never the one-node special case -/
theorem vnodes_not_single {P : Program} (hsw : OneP P) (s : St) (x : Node) :
    P.g.vnodes (filteredView P s) ≠ [x] := by
  intro h
  have h2 := two_nodes hsw
  have hv : P.g.vnodes (filteredView P s) = P.g.nodes := List.filter_eq_self.mpr fun _ _ => rfl
  rw [← hv, h] at h2
  simp at h2

theorem reducedRef_some {P : Program} (hsw : OneP P) {s : St} {src dst : Node} {f1 f2 f3 : Bool} {d : DagRef}
    (h : reducedRef P s src dst f1 f2 f3 = some d) :
    ∃ ns, P.g.between (filteredView P s) src dst = some ns ∧ d = ⟨src, some dst, ns, f1, f2, f3⟩ :=
  (reducedRef_cases h).resolve_left fun ⟨x, hx, _⟩ => vnodes_not_single hsw s x hx

/-! ### what readiness looks at outside a recurrent subgraph -/

theorem predsFor_eq {P : Program} (s : St) {d : DagRef} {m : Node} (hnh : P.g.isOneofHead m = false) (hd : d.isRec = false) :
    predsFor P s d m = (basePreds P m).map (resolveSw P s) := by
  unfold predsFor basePreds resolveSw
  simp only [hd, hnh, Bool.or_false]
  split <;> rfl

theorem ready_eq {P : Program} (s : St) {d : DagRef} {m : Node} (hnh : P.g.isOneofHead m = false) (hd : d.isRec = false) :
    ready P s d m = (basePreds P m).all fun u => s.exists (resolveSw P s u) && !(s.get (resolveSw P s u)).isRecur := by
  unfold ready
  rw [predsFor_eq s hnh hd, List.all_map]
  rfl

theorem mem_basePreds_edge {P : Program} {m u : Node} (h : u ∈ basePreds P m) :
    ∃ e ∈ P.g.edges, e.u = u ∧ e.v = m ∧ (P.g.isSwitch m = true → e.isSwitch = true) := by
  unfold basePreds at h
  split at h
  · simp only [List.mem_map, List.mem_filter, Bool.and_eq_true, beq_iff_eq] at h
    obtain ⟨e, ⟨he, hv, hs⟩, hu⟩ := h
    exact ⟨e, he, hu, hv, fun _ => hs⟩
  · next hS =>
    obtain ⟨e, he, hv, hu⟩ := Graph.mem_preds.mp h
    exact ⟨e, he, hu, hv, fun h' => absurd h' hS⟩

end MLPE.Eng
