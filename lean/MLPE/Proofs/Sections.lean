import MLPE.Eng

/-!
# What a section of the engine model is made of

Every proof about `Eng` follows a task through one atomic section: some primitives change the state, then the section
ends by installing the task's new frames.  This file says once what those pieces do.

* `St.woken`: every notification primitive (`notify`, `notifyAll`, `setEvent`, the `finally` of `_run_node`, the unwinding
  of a frame stack) is `s.woken ks evs` for the keys and events it signals — all other fields are untouched by `rfl`.
* `Resched`: what every pass that only looks at frames needs to know about waking, cancellation and the environment's
  choices — the tasks keep frames and name, a blocked task may have become runnable, a cancellation mark may have been set.
* `finish`: the ways a section ends (`block`, `yieldNow`, `retTo`, `endTask`, and `raiseOut` after its unwinding) are one function.
* `Section`: the dispatch of `stepTask` on the top frame, as a relation to case on (`stepTask_cases`); the delivery of a
  cancellation (`deliverCancel_cases`) and the environment's choices (`step_cases`).
* `FramesAll`: invariants that speak of each frame by itself.
-/
namespace MLPE.Eng
open MLPE

/-! ### the task list -/

theorem getElem?_lt {α} {l : List α} {i : Nat} {x : α} (h : l[i]? = some x) : i < l.length := by
  rcases Nat.lt_or_ge i l.length with h1 | h1
  · exact h1
  · simp [List.getElem?_eq_none h1] at h

theorem tasks_singleton {s : St} {t : Nat} {tk : Task} (h1 : s.tasks.length = 1) (h : s.tasks[t]? = some tk) :
    t = 0 ∧ s.tasks = [tk] := by
  obtain ⟨a, ha⟩ := List.length_eq_one_iff.mp h1
  obtain rfl : t = 0 := Nat.lt_one_iff.mp (h1 ▸ getElem?_lt h)
  rw [ha] at h ⊢
  cases h
  exact ⟨rfl, rfl⟩

theorem getElem?_setTask {s : St} {t : Nat} {tk' : Task} (hlt : t < s.tasks.length) (i : Nat) :
    (s.setTask t tk').tasks[i]? = if i = t then some tk' else s.tasks[i]? := by
  simp only [St.setTask]
  split
  · next h => subst h; exact List.getElem?_set_self hlt
  · next h => exact List.getElem?_set_ne (Ne.symm h)

theorem getElem?_setTask_ne (s : St) (t i : Nat) (tk : Task) (h : i ≠ t) :
    (s.setTask t tk).tasks[i]? = s.tasks[i]? := by
  simp [St.setTask, List.getElem?_set_ne (Ne.symm h)]

@[simp] theorem len_setTask (s : St) (t : Nat) (tk : Task) : (s.setTask t tk).tasks.length = s.tasks.length := by
  simp [St.setTask]

theorem getElem?_setTask_cases {s : St} {t j : Nat} {tk' tk : Task} (h : (s.setTask t tk').tasks[j]? = some tk) :
    (j = t ∧ tk = tk') ∨ (j ≠ t ∧ s.tasks[j]? = some tk) := by
  simp only [St.setTask, List.getElem?_set] at h
  split at h
  · next e => split at h <;> cases h; exact .inl ⟨e.symm, rfl⟩
  · next e => exact .inr ⟨fun e' => e e'.symm, h⟩

theorem setTask_self {s : St} {t : Nat} {tk : Task} (h : s.tasks[t]? = some tk) : s.setTask t tk = s := by
  obtain ⟨hlt, heq⟩ := List.getElem?_eq_some_iff.mp h
  unfold St.setTask
  have : s.tasks.set t tk = s.tasks := by rw [← heq]; exact List.set_getElem_self hlt
  rw [this]

theorem mem_taskErrors_iff {s : St} {e : Exc} :
    e ∈ taskErrors s ↔ ∃ (i : Nat) (tk : Task), s.tasks[i]? = some tk ∧ tk.st = .done (.exc e) := by
  unfold taskErrors
  rw [List.mem_filterMap]
  constructor
  · rintro ⟨tk, htk, h⟩
    obtain ⟨i, hi, rfl⟩ := List.getElem_of_mem htk
    refine ⟨i, _, List.getElem?_eq_getElem hi, ?_⟩
    split at h
    · next e' he' => cases h; exact he'
    · cases h
  · rintro ⟨i, tk, hi, hst⟩
    exact ⟨tk, List.mem_of_getElem? hi, by simp [hst]⟩

theorem getElem?_spawn_old {s : St} {i : Nat} {tk : Task} (h : s.tasks[i]? = some tk) (fs : List Frame) (nm : TaskName) :
    (spawn s fs nm).1.tasks[i]? = some tk := by
  simp only [spawn]
  rw [List.getElem?_append_left (getElem?_lt h)]
  exact h

theorem getElem?_spawn_new (s : St) (fs : List Frame) (nm : TaskName) :
    (spawn s fs nm).1.tasks[s.tasks.length]? = some { frames := fs, st := .runnable .go, name := nm } := by
  simp only [spawn]
  rw [List.getElem?_append_right (Nat.le_refl _), Nat.sub_self]
  rfl

theorem getElem?_spawn {s : St} {fs : List Frame} {nm : TaskName} {i : Nat} {tk : Task}
    (h : (spawn s fs nm).1.tasks[i]? = some tk) :
    s.tasks[i]? = some tk ∨ tk = { frames := fs, st := .runnable .go, name := nm } := by
  simp only [spawn, List.getElem?_append] at h
  split at h
  · exact .inl h
  · cases hj : i - s.tasks.length with
    | zero => rw [hj] at h; cases h; exact .inr rfl
    | succ j => rw [hj] at h; cases h

/-! ### waking -/

def wakeSet (ks : List Key) (evs : List Node) (tk : Task) : Task :=
  match tk.st with
  | .blocked (.cond k) => if ks.contains k then { tk with st := .runnable .go } else tk
  | .blocked (.event n) => if evs.contains n then { tk with st := .runnable .go } else tk
  | _ => tk

theorem wakeSet_spec (ks : List Key) (evs : List Node) (tk : Task) :
    (wakeSet ks evs tk = tk ∧ ∀ w, tk.st = .blocked w → (∀ k ∈ ks, w ≠ .cond k) ∧ ∀ n ∈ evs, w ≠ .event n) ∨
    (wakeSet ks evs tk = { tk with st := .runnable .go } ∧
      ((∃ k ∈ ks, tk.st = .blocked (.cond k)) ∨ ∃ n ∈ evs, tk.st = .blocked (.event n))) := by
  unfold wakeSet
  split
  · next k hk =>
    split
    · next hc => exact Or.inr ⟨rfl, Or.inl ⟨k, List.contains_iff_mem.mp hc, hk⟩⟩
    · next hc =>
      refine Or.inl ⟨rfl, fun w hw => ?_⟩
      cases hk.symm.trans hw
      exact ⟨fun k' hk' e => by cases e; exact hc (List.contains_iff_mem.mpr hk'), fun _ _ e => nomatch e⟩
  · next n hn =>
    split
    · next hc => exact Or.inr ⟨rfl, Or.inr ⟨n, List.contains_iff_mem.mp hc, hn⟩⟩
    · next hc =>
      refine Or.inl ⟨rfl, fun w hw => ?_⟩
      cases hn.symm.trans hw
      exact ⟨fun _ _ e => (nomatch e), fun n' hn' e => by cases e; exact hc (List.contains_iff_mem.mpr hn')⟩
  · next h1 h2 => exact Or.inl ⟨rfl, fun w hw => ⟨fun k _ e => h1 k (e ▸ hw), fun n _ e => h2 n (e ▸ hw)⟩⟩

theorem wakeSet_cases (ks : List Key) (evs : List Node) (tk : Task) :
    wakeSet ks evs tk = tk ∨ ((∃ w, tk.st = .blocked w) ∧ wakeSet ks evs tk = { tk with st := .runnable .go }) :=
  (wakeSet_spec ks evs tk).imp And.left
    fun ⟨e, h⟩ => ⟨h.elim (fun ⟨_, _, h⟩ => ⟨_, h⟩) (fun ⟨_, _, h⟩ => ⟨_, h⟩), e⟩

@[simp] theorem wakeSet_frames (ks : List Key) (evs : List Node) (tk : Task) : (wakeSet ks evs tk).frames = tk.frames := by
  rcases wakeSet_cases ks evs tk with h | ⟨_, h⟩ <;> rw [h]

@[simp] theorem wakeSet_name (ks : List Key) (evs : List Node) (tk : Task) : (wakeSet ks evs tk).name = tk.name := by
  rcases wakeSet_cases ks evs tk with h | ⟨_, h⟩ <;> rw [h]

@[simp] theorem wakeSet_mustCancel (ks : List Key) (evs : List Node) (tk : Task) :
    (wakeSet ks evs tk).mustCancel = tk.mustCancel := by
  rcases wakeSet_cases ks evs tk with h | ⟨_, h⟩ <;> rw [h]

theorem wakeSet_nil (tk : Task) : wakeSet [] [] tk = tk := by
  unfold wakeSet; split <;> simp

theorem wakeSet_comp (ks1 ks2 : List Key) (e1 e2 : List Node) (tk : Task) :
    wakeSet ks2 e2 (wakeSet ks1 e1 tk) = wakeSet (ks1 ++ ks2) (e1 ++ e2) tk := by
  obtain ⟨fr, st, mc, nm⟩ := tk
  cases st with
  | runnable rv => rfl
  | done r => rfl
  | blocked w =>
    cases w with
    | cond k => by_cases h1 : k ∈ ks1 <;> by_cases h2 : k ∈ ks2 <;> simp [wakeSet, h1, h2]
    | event n => by_cases h1 : n ∈ e1 <;> by_cases h2 : n ∈ e2 <;> simp [wakeSet, h1, h2]
    | gate a b c o => rfl
    | sleep a b c dl => rfl

theorem wakeIf_cond_eq (k : Key) (tk : Task) :
    wakeIf (fun w => match w with | .cond k' => k' == k | _ => false) tk = wakeSet [k] [] tk := by
  obtain ⟨fr, st, mc, nm⟩ := tk
  cases st with
  | runnable rv => rfl
  | done r => rfl
  | blocked w => cases w <;> simp [wakeIf, wakeSet]

theorem wakeIf_event_eq (n : Node) (tk : Task) :
    wakeIf (fun w => match w with | .event n' => n' == n | _ => false) tk = wakeSet [] [n] tk := by
  obtain ⟨fr, st, mc, nm⟩ := tk
  cases st with
  | runnable rv => rfl
  | done r => rfl
  | blocked w => cases w <;> simp [wakeIf, wakeSet]

@[simp] theorem wakeIf_mustCancel (p : Wait → Bool) (tk : Task) : (wakeIf p tk).mustCancel = tk.mustCancel := by
  unfold wakeIf; split <;> (try split) <;> rfl

@[simp] theorem wakeIf_frames (p : Wait → Bool) (tk : Task) : (wakeIf p tk).frames = tk.frames := by
  unfold wakeIf; split <;> (try split) <;> rfl

def St.woken (s : St) (ks : List Key) (evs : List Node) : St :=
  { s with tasks := s.tasks.map (wakeSet ks evs), evSet := fun n => evs.contains n || s.evSet n }

theorem woken_nil (s : St) : s.woken [] [] = s := by
  have : wakeSet [] [] = id := funext wakeSet_nil
  simp [St.woken, this]

theorem woken_woken (s : St) (k1 k2 : List Key) (e1 e2 : List Node) :
    (s.woken k1 e1).woken k2 e2 = s.woken (k1 ++ k2) (e1 ++ e2) := by
  simp only [St.woken, List.map_map, List.contains_append, Bool.or_assoc]
  congr 2
  · funext n; rw [Bool.or_left_comm]
  · funext tk; exact wakeSet_comp ..

theorem notify_eq (s : St) (k : Key) : notify s k = s.woken [k] [] := by
  simp only [notify, St.woken, List.contains_nil, Bool.false_or]
  congr 2
  funext tk; exact wakeIf_cond_eq k tk

theorem setEvent_eq (s : St) (n : Node) : setEvent s n = s.woken [] [n] := by
  simp only [setEvent, St.woken]
  congr 2
  · funext x; by_cases h : x = n <;> simp [upd, h]
  · funext tk; exact wakeIf_event_eq n tk

theorem notifyAll_eq (ks : List Key) : ∀ s : St, notifyAll s ks = s.woken ks [] := by
  unfold notifyAll
  induction ks with
  | nil => intro s; exact (woken_nil s).symm
  | cons k ks ih => intro s; rw [List.foldl_cons, ih, notify_eq, woken_woken]; rfl

/-- the condition keys the `finally` of `_run_node` notifies when `to_unlock_descendants` is set -/
def finallyKeys (P : Program) (n : Node) : List Key :=
  (P.g.desc1 n).map Key.node ++ [.run] ++ [.node n]

theorem nodeFinally_eq (P : Program) (s : St) (d : DagRef) (n : Node) (u : Bool) :
    nodeFinally P s d n u = s.woken (if u then finallyKeys P n else [.node n]) [n] := by
  cases u <;>
    simp only [nodeFinally, finallyKeys, notify_eq, notifyAll_eq, setEvent_eq, woken_woken, Bool.not_true, Bool.not_false,
      if_true, Bool.false_eq_true, if_false, List.nil_append, List.append_nil, List.append_assoc]

theorem unwindFrames_eq (P : Program) : ∀ (fs : List Frame) (s : St), ∃ ks evs, unwindFrames P s fs = s.woken ks evs
  | [], s => ⟨[], [], (woken_nil s).symm⟩
  | f :: fs, s => by
    cases f
    case node d n force pc =>
      simp only [unwindFrames]
      split
      · exact unwindFrames_eq P fs s
      · obtain ⟨ks, evs, h⟩ := unwindFrames_eq P fs (nodeFinally P s d n true)
        exact ⟨_, _, by rw [h, nodeFinally_eq, woken_woken]⟩
    all_goals exact unwindFrames_eq P fs s

/-! ### rescheduling: what waking, cancelling and the environment do to the tasks -/

structure Task.Resched (tk tk' : Task) : Prop where
  frames : tk'.frames = tk.frames
  name   : tk'.name = tk.name
  st     : tk'.st = tk.st ∨ (∃ w, tk.st = .blocked w) ∧ ∃ rv, tk'.st = .runnable rv
  cancel : tk.mustCancel = true → tk'.mustCancel = true

theorem Task.Resched.refl (tk : Task) : tk.Resched tk := ⟨rfl, rfl, Or.inl rfl, id⟩

structure Resched (s s' : St) : Prop where
  data  : s' = { s with tasks := s'.tasks, evSet := s'.evSet }
  len   : s'.tasks.length = s.tasks.length
  task  : ∀ (i : Nat) (tk tk' : Task), s.tasks[i]? = some tk → s'.tasks[i]? = some tk' → tk.Resched tk'

theorem Resched.refl (s : St) : Resched s s :=
  ⟨rfl, rfl, fun _ _ _ h h' => by rw [h] at h'; cases h'; exact .refl _⟩

theorem Resched.back {s s' : St} (r : Resched s s') {i : Nat} {tk' : Task} (h : s'.tasks[i]? = some tk') :
    ∃ tk, s.tasks[i]? = some tk ∧ tk.Resched tk' := by
  have : i < s.tasks.length := r.len ▸ getElem?_lt h
  exact ⟨s.tasks[i], List.getElem?_eq_getElem this, r.task i _ _ (List.getElem?_eq_getElem this) h⟩

theorem Resched.fwd {s s' : St} (r : Resched s s') {i : Nat} {tk : Task} (h : s.tasks[i]? = some tk) :
    ∃ tk', s'.tasks[i]? = some tk' ∧ tk.Resched tk' := by
  have : i < s'.tasks.length := r.len ▸ getElem?_lt h
  exact ⟨s'.tasks[i], List.getElem?_eq_getElem this, r.task i _ _ h (List.getElem?_eq_getElem this)⟩

theorem Resched.of_map (s : St) (f : Task → Task) (hf : ∀ tk : Task, tk.Resched (f tk)) :
    Resched s { s with tasks := s.tasks.map f } :=
  ⟨rfl, by simp, fun i tk tk' h h' => by
    rw [List.getElem?_map, h] at h'; cases h'; exact hf tk⟩

theorem wakeSet_resched (ks : List Key) (evs : List Node) (tk : Task) : tk.Resched (wakeSet ks evs tk) := by
  rcases wakeSet_cases ks evs tk with h | ⟨hw, h⟩ <;> rw [h]
  · exact .refl tk
  · exact ⟨rfl, rfl, Or.inr ⟨hw, _, rfl⟩, id⟩

theorem Resched.woken (s : St) (ks : List Key) (evs : List Node) : Resched s (s.woken ks evs) :=
  ⟨rfl, by simp [St.woken], fun i tk tk' h h' => by
    simp only [St.woken, List.getElem?_map, h] at h'; cases h'; exact wakeSet_resched ..⟩

theorem Resched.notify (s : St) (k : Key) : Resched s (Eng.notify s k) := by
  rw [notify_eq]; exact .woken ..

theorem Resched.notifyAll (s : St) (ks : List Key) : Resched s (Eng.notifyAll s ks) := by
  rw [notifyAll_eq]; exact .woken ..

theorem Resched.nodeFinally (P : Program) (s : St) (d : DagRef) (n : Node) (u : Bool) :
    Resched s (Eng.nodeFinally P s d n u) := by
  rw [nodeFinally_eq]; exact .woken ..

theorem Resched.unwindFrames (P : Program) (s : St) (fs : List Frame) : Resched s (Eng.unwindFrames P s fs) := by
  obtain ⟨ks, evs, h⟩ := unwindFrames_eq P fs s
  rw [h]; exact .woken ..

theorem Task.Resched.done {tk tk' : Task} (r : tk.Resched tk') {x : TaskRes} (h : tk'.st = .done x) : tk.st = .done x := by
  rcases r.st with e | ⟨_, rv, e⟩
  · rw [← e]; exact h
  · rw [e] at h; cases h

theorem Task.Resched.st_eq {tk tk' : Task} (r : tk.Resched tk') (h : ∀ w, tk.st ≠ .blocked w) : tk'.st = tk.st := by
  rcases r.st with h1 | ⟨⟨w, hw⟩, _⟩
  · exact h1
  · exact absurd hw (h w)

theorem Task.Resched.trans {a b c : Task} (h1 : a.Resched b) (h2 : b.Resched c) : a.Resched c := by
  refine ⟨h2.frames.trans h1.frames, h2.name.trans h1.name, ?_, fun h => h2.cancel (h1.cancel h)⟩
  rcases h1.st with e1 | ⟨w1, r1⟩ <;> rcases h2.st with e2 | ⟨⟨w, hw⟩, r2⟩
  · exact Or.inl (e2.trans e1)
  · exact Or.inr ⟨⟨w, e1 ▸ hw⟩, r2⟩
  · exact Or.inr ⟨w1, e2 ▸ r1⟩
  · obtain ⟨rv, hr⟩ := r1; rw [hr] at hw; cases hw

theorem Resched.trans {a b c : St} (h1 : Resched a b) (h2 : Resched b c) : Resched a c := by
  refine ⟨?_, h2.len.trans h1.len, fun i tk tk'' h h'' => ?_⟩
  · rw [h2.data, h1.data]
  · obtain ⟨tk', h', r⟩ := h1.fwd h
    exact r.trans (h2.task i _ _ h' h'')

theorem Resched.setTask {s : St} {t : Nat} {tk tk' : Task} (h : s.tasks[t]? = some tk) (r : tk.Resched tk') :
    Resched s (s.setTask t tk') :=
  ⟨rfl, by simp [St.setTask], fun i a a' ha ha' => by
    rcases getElem?_setTask_cases ha' with ⟨rfl, rfl⟩ | ⟨_, h'⟩
    · rw [h] at ha; cases ha; exact r
    · rw [ha] at h'; cases h'; exact .refl _⟩

/-- the entry of a task after `Task.cancel()` -/
def cancelled (tk : Task) : Task :=
  match tk.st with
  | .done _ => tk
  | .blocked _ => { tk with st := .runnable .go, mustCancel := true }
  | .runnable _ => { tk with mustCancel := true }

theorem cancelled_resched (tk : Task) : tk.Resched (cancelled tk) := by
  unfold cancelled
  split
  · exact .refl tk
  · exact ⟨rfl, rfl, Or.inr ⟨⟨_, ‹_›⟩, _, rfl⟩, fun _ => rfl⟩
  · exact ⟨rfl, rfl, Or.inl rfl, fun _ => rfl⟩

theorem cancelTask_eq (s : St) (t : Nat) :
    cancelTask s t = match s.tasks[t]? with
      | none => s
      | some tk => s.setTask t (cancelled tk) := by
  unfold cancelTask cancelled
  cases h : s.tasks[t]? with
  | none => rfl
  | some tk =>
    simp only []
    cases hst : tk.st with
    | done r =>
      simp only [St.setTask]
      have hlt := getElem?_lt h
      have : s.tasks[t] = tk := by simpa [List.getElem?_eq_getElem hlt] using h
      rw [← this, List.set_getElem_self]
    | blocked w => rfl
    | runnable rv => rfl

theorem Resched.cancelTask (s : St) (t : Nat) : Resched s (cancelTask s t) := by
  rw [cancelTask_eq]
  split
  · exact .refl s
  · next h => exact .setTask h (cancelled_resched _)

theorem Resched.cancelTasks : ∀ (ts : List Nat) (s : St), Resched s (cancelTasks s ts)
  | [], s => .refl s
  | t :: ts, s => (Resched.cancelTask s t).trans (Resched.cancelTasks ts _)

theorem gateDone_resched (n inv att : Nat) (tk : Task) : tk.Resched (gateDone n inv att tk) := by
  unfold gateDone
  split
  · split
    · exact ⟨rfl, rfl, Or.inr ⟨⟨_, ‹_›⟩, _, rfl⟩, id⟩
    · exact .refl tk
  · exact .refl tk

/-! ### how a section ends -/

def finish (c : Ctx) (s : St) (obs : List Obs) (fs : List Frame) (st : TaskSt) : Out :=
  match s.tasks[c.t]? with
  | none => (s, obs)
  | some tk =>
    match st with
    | .done r => (s.setTask c.t { tk with frames := fs, st := st, mustCancel := false }, obs ++ [.done c.t r])
    | _ => (s.setTask c.t { tk with frames := fs, st := st }, obs)

theorem finish_none {c : Ctx} {s : St} (h : s.tasks[c.t]? = none) (obs : List Obs) (fs : List Frame) (st : TaskSt) :
    finish c s obs fs st = (s, obs) := by
  simp only [finish, h]

theorem finish_done {c : Ctx} {s : St} {tk : Task} (h : s.tasks[c.t]? = some tk) (obs : List Obs) (fs : List Frame)
    (r : TaskRes) : finish c s obs fs (.done r) =
      (s.setTask c.t { tk with frames := fs, st := .done r, mustCancel := false }, obs ++ [.done c.t r]) := by
  simp only [finish, h]

theorem finish_blocked {c : Ctx} {s : St} {tk : Task} (h : s.tasks[c.t]? = some tk) (obs : List Obs) (fs : List Frame)
    (w : Wait) : finish c s obs fs (.blocked w) = (s.setTask c.t { tk with frames := fs, st := .blocked w }, obs) := by
  simp only [finish, h]

theorem finish_runnable {c : Ctx} {s : St} {tk : Task} (h : s.tasks[c.t]? = some tk) (obs : List Obs) (fs : List Frame)
    (rv : Resume) : finish c s obs fs (.runnable rv) = (s.setTask c.t { tk with frames := fs, st := .runnable rv }, obs) := by
  simp only [finish, h]

theorem finish_data (c : Ctx) (s : St) (obs : List Obs) (fs : List Frame) (st : TaskSt) :
    (finish c s obs fs st).1 = { s with tasks := (finish c s obs fs st).1.tasks } := by
  unfold finish
  split
  · rfl
  · split <;> rfl

theorem finish_len (c : Ctx) (s : St) (obs : List Obs) (fs : List Frame) (st : TaskSt) :
    (finish c s obs fs st).1.tasks.length = s.tasks.length := by
  unfold finish
  split
  · rfl
  · split <;> simp [St.setTask]

theorem finish_others (c : Ctx) (s : St) (obs : List Obs) (fs : List Frame) (st : TaskSt) {i : Nat} (h : i ≠ c.t) :
    (finish c s obs fs st).1.tasks[i]? = s.tasks[i]? := by
  unfold finish
  split
  · rfl
  · split <;> exact getElem?_setTask_ne _ _ _ _ h

theorem finish_done_self {c : Ctx} {s : St} {tk : Task} (h : s.tasks[c.t]? = some tk) (obs : List Obs) (fs : List Frame)
    (r : TaskRes) : (finish c s obs fs (.done r)).1.tasks[c.t]? =
      some { tk with frames := fs, st := .done r, mustCancel := false } := by
  rw [finish_done h]
  exact List.getElem?_set_self (getElem?_lt h)

theorem mem_finish_obs {c : Ctx} {s : St} {obs : List Obs} {fs : List Frame} {st : TaskSt} {o : Obs}
    (h : o ∈ (finish c s obs fs st).2) : o ∈ obs ∨ ∃ r, o = .done c.t r := by
  unfold finish at h
  split at h
  · exact Or.inl h
  · split at h
    · exact (List.mem_append.mp h).imp id fun h => ⟨_, List.mem_singleton.mp h⟩
    · exact Or.inl h

theorem endTask_finish (c : Ctx) (s : St) (obs : List Obs) (r : TaskRes) : endTask c s obs r = finish c s obs [] (.done r) := rfl
theorem block_finish (c : Ctx) (s : St) (obs : List Obs) (fs : List Frame) (w : Wait) :
    block c s obs fs w = finish c s obs fs (.blocked w) := rfl
theorem yieldNow_finish (c : Ctx) (s : St) (obs : List Obs) (fs : List Frame) :
    yieldNow c s obs fs = finish c s obs fs (.runnable .go) := rfl

/-- `block` (and `yieldNow`, `endTask` below) with the task's name and mark spelt out, so that a known name or mark can be rewritten in -/
theorem block_fst {c : Ctx} {s : St} {tk : Task} (h : s.tasks[c.t]? = some tk) (obs : List Obs) (fr : List Frame)
    (w : Wait) : (block c s obs fr w).1 = s.setTask c.t ⟨fr, .blocked w, tk.mustCancel, tk.name⟩ := by
  rw [block_finish, finish_blocked h]

theorem yieldNow_fst {c : Ctx} {s : St} {tk : Task} (h : s.tasks[c.t]? = some tk) (obs : List Obs) (fr : List Frame) :
    (yieldNow c s obs fr).1 = s.setTask c.t ⟨fr, .runnable .go, tk.mustCancel, tk.name⟩ := by
  rw [yieldNow_finish, finish_runnable h]

theorem endTask_fst {c : Ctx} {s : St} {tk : Task} (h : s.tasks[c.t]? = some tk) (obs : List Obs) (r : TaskRes) :
    (endTask c s obs r).1 = s.setTask c.t ⟨[], .done r, false, tk.name⟩ := by
  rw [endTask_finish, finish_done h]

theorem retTo_finish (c : Ctx) (s : St) (obs : List Obs) (below : List Frame) (v : Val) :
    retTo c s obs below v = finish c s obs below (if below = [] then .done .ok else .runnable (.ret v)) := by
  cases below <;> rfl

theorem raiseOut_finish (c : Ctx) (s : St) (obs : List Obs) (below : List Frame) (r : TaskRes) :
    ∃ ks evs, raiseOut c s obs below r = finish c (s.woken ks evs) obs [] (.done r) := by
  obtain ⟨ks, evs, h⟩ := unwindFrames_eq c.P below s
  exact ⟨ks, evs, by rw [raiseOut, h]; rfl⟩

theorem raiseOut_nil (c : Ctx) (s : St) (obs : List Obs) (r : TaskRes) : raiseOut c s obs [] r = endTask c s obs r := rfl

/-! ### the sections of `stepTask` -/

/-- `Section c s fs rv out`: resumed with `rv` on the frame stack `fs`, task `c.t` runs the section with result `out`.  (The
callbacks after the last attempt — `cbOk`, `cbFail`, `cbSave` — re-install their frame with `force := false`, as the model does.) -/
inductive Section (c : Ctx) (s : St) : List Frame → Resume → Out → Prop
  | mgrStart {rv} : Section c s [.mgrStart] rv (mgrStart c s [])
  | mgrWait {rv} : Section c s [.mgrWait] rv (mgrCheck c s [])
  | mgrCbStart {rv j} : Section c s [.mgrCbStart j] rv
      (cbThen c s [] (fun j => [.mgrCbStart j]) j (fun s obs => mgrBegin c s obs))
  | mgrCbComplete {rv j o} : Section c s [.mgrCbComplete j o] rv
      (cbThen c s [] (fun j => [.mgrCbComplete j o]) j (fun s obs => mgrReturn c s obs o))
  | dagInit {rv d below} : Section c s (.dagInit d :: below) rv (dagInit c s [] d below)
  | dagLaunch {rv d rest below} : Section c s (.dagLaunch d rest :: below) rv (dagLaunch c d below s [] rest)
  | dagWaitDest {rv d below} : Section c s (.dagWaitDest d :: below) rv (dagWaitDest c s [] d below)
  | nodeStart {rv d n force below} : Section c s (.node d n force .start :: below) rv (nodeStart c s [] d n force below)
  | nodeEvWait {rv d n force below} : Section c s (.node d n force .evWait :: below) rv
      (nodePost c s [] d n below (s.get n) false)
  | nodeBody {o d n force k kw inv below} : Section c s (.node d n force (.body k kw inv) :: below) (.body o)
      (nodeAfterBody c s [] d n force below k kw inv (c.P.body n kw inv k))
  | nodeSleep {rv d n force k kw inv below} : Section c s (.node d n force (.sleep k kw inv) :: below) rv
      (nodeAttempt c s [] d n force below (k + 1) kw inv)
  | nodeCbStart {rv d n force j inv below} : Section c s (.node d n force (.cbStart j inv) :: below) rv
      (cbThen c s [] (fun j => .node d n force (.cbStart j inv) :: below) j
        (fun s obs => nodeBegin c s obs d n force below inv))
  | nodeCbRetry {rv d n force j k kw inv below} : Section c s (.node d n force (.cbRetry j k kw inv) :: below) rv
      (cbThen c s [] (fun j => .node d n force (.cbRetry j k kw inv) :: below) j
        (fun s obs => nodeSleep c s obs d n force below k kw inv))
  | nodeCbOk {rv d n force j v below} : Section c s (.node d n force (.cbOk j v) :: below) rv
      (cbThen c s [] (fun j => .node d n false (.cbOk j v) :: below) j (fun s obs => nodePost c s obs d n below v))
  | nodeCbFail {rv d n force j e below} : Section c s (.node d n force (.cbFail j e) :: below) rv
      (cbThen c s [] (fun j => .node d n false (.cbFail j e) :: below) j
        (fun s obs => nodeFailCont c s obs d n below e))
  | nodeCbSave {rv d n force j below} : Section c s (.node d n force (.cbSave j) :: below) rv
      (cbThen c s [] (fun j => .node d n false (.cbSave j) :: below) j (fun s obs => nodeFinish c s obs d n below))
  | switchStart {rv d n below} : Section c s (.switchStart d n :: below) rv (switchStart c s [] d n below)
  | switchRet {v d n below} : Section c s (.switchRet d n :: below) (.ret v)
      (retTo c (notifyAll s ((c.P.g.desc1 n).map Key.node)) [] below v)
  | oneofStart {rv d head below} : Section c s (.oneofStart d head :: below) rv
      (oneofTry c d head below s [] (c.P.g.attr head).oneofNodes)
  | oneofWait {rv d head cand rest sub below} : Section c s (.oneofWait d head cand rest sub :: below) rv
      (oneofWake c s [] d head cand rest sub below)
  | recStart {rv d n r below} : Section c s (.recStart d n r :: below) rv (recStart c s [] d n r below)
  /-- an iteration returned with an error in its DAG: a destination that still asks for an iteration gets that error -/
  | recIterErr {v d n start g k below} (h : hasError s g = true) :
      Section c s (.recIterRet d n start g k :: below) (.ret v)
        (retTo c (if v.isRecur then
            notifyAll (notify (s.setRes n (.exc (subgraphError c.P s g))) (.node n)) ((c.P.g.desc1 n).map Key.node)
          else s) [] below .none)
  | recIterDone {v d n start g k below} (h : hasError s g = false) (hv : v.isRecur = false) :
      Section c s (.recIterRet d n start g k :: below) (.ret v) (recFinish c s [] n start below)
  | recIterNext {v d n start g k below} (h : hasError s g = false) (hv : v.isRecur = true) :
      Section c s (.recIterRet d n start g k :: below) (.ret v) (recIter c s [] d n start g (k + 1) v below)
  | recDfltRet {v d n start below} : Section c s (.recDfltRet d n start :: below) (.ret v) (recFinish c s [] n start below)

theorem stepTask_cases {c : Ctx} {s : St} {out : Out} (h : stepTask c s = some out) :
    ∃ tk rv, s.tasks[c.t]? = some tk ∧ tk.st = .runnable rv ∧
      ((tk.mustCancel = true ∧ out = deliverCancel c s tk) ∨ (tk.mustCancel = false ∧ Section c s tk.frames rv out)) := by
  unfold stepTask at h
  split at h
  · cases h
  · next tk htk =>
    split at h
    · next rv hrv =>
      refine ⟨tk, rv, htk, hrv, ?_⟩
      split at h
      · next hc => exact Or.inl ⟨hc, (Option.some.inj h).symm⟩
      · next hc =>
        refine Or.inr ⟨by simpa using hc, ?_⟩
        -- one goal per arm of the `match` on the frame stack: `none`, or the constructor of `Section` of the same name;
        -- only the arm of `recIterRet`, which branches before it calls a handler, is left over
        split at h
        all_goals (try subst_vars)
        all_goals first | (cases h; done) | (rename_i hfr; rw [hfr])
        all_goals first | (cases h; constructor; done) | skip
        · split at h
          · cases h; exact .recIterErr ‹_›
          · next he =>
            have he := Bool.not_eq_true _ ▸ he
            split at h <;> cases h
            · next hv => exact .recIterDone he (by simpa using hv)
            · next hv => exact .recIterNext he (by simpa using hv)
    · cases h

/-- a frame stack that belongs to `chart.run` itself (only the caller's task ever has one) -/
def isCallerFrames : List Frame → Bool
  | [.mgrStart] => true
  | [.mgrWait] => true
  | [.mgrCbStart _] => true
  | [.mgrCbComplete _ _] => true
  | _ => false

theorem stepTask_mustCancel {c : Ctx} {s : St} {tk : Task} {rv : Resume} (h : s.tasks[c.t]? = some tk)
    (hst : tk.st = .runnable rv) (hm : tk.mustCancel = true) : stepTask c s = some (deliverCancel c s tk) := by
  unfold stepTask
  simp only [h, hst, hm, if_true]

theorem deliverCancel_engine (c : Ctx) (s : St) {tk : Task} (h : isCallerFrames tk.frames = false) :
    deliverCancel c s tk = raiseOut c s [] tk.frames .cancelled := by
  unfold deliverCancel
  split <;> first | rfl | (rename_i hf; rw [hf] at h; cases h)

/-- `CancelledError` is delivered: the task ends `cancelled`, after the `finally` of its node frames; the caller's task
returns it as the outcome of the run, and `manager.run`, if it has got that far, cancels everybody first -/
theorem deliverCancel_cases (c : Ctx) (s : St) (tk : Task) : ∃ s', Resched s s' ∧
    (deliverCancel c s tk = finish c s' [] [] (.done .cancelled) ∨
     deliverCancel c s tk = ((finish c s' [.returned .cancelled] [] (.done .cancelled)).1.setOutcome .cancelled,
                             (finish c s' [.returned .cancelled] [] (.done .cancelled)).2)) := by
  unfold deliverCancel
  split
  · exact ⟨s, .refl s, Or.inr rfl⟩
  · exact ⟨s, .refl s, Or.inr rfl⟩
  · exact ⟨_, .cancelTasks _ s, Or.inr rfl⟩
  · exact ⟨s, .refl s, Or.inr rfl⟩
  · obtain ⟨ks, evs, h⟩ := raiseOut_finish c s [] tk.frames .cancelled
    exact ⟨_, .woken s ks evs, Or.inl h⟩

theorem step_gate {P : Program} {s : St} {n inv att : Nat} {out : Out} (h : step P s (.gate n inv att) = some out) :
    out = ({ s with tasks := s.tasks.map (gateDone n inv att) }, []) := by
  simp only [step] at h
  split at h <;> cases h
  rfl

theorem step_timer {P : Program} {s : St} {t : Nat} {out : Out} (h : step P s (.timer t) = some out) :
    ∃ tk n i a d, s.tasks[t]? = some tk ∧ tk.st = .blocked (.sleep n i a d) ∧
      out = (s.setTask t { tk with st := .runnable .go }, []) := by
  simp only [step] at h
  split at h
  · next tk htk =>
    split at h <;> cases h
    exact ⟨tk, _, _, _, _, htk, ‹_›, rfl⟩
  · cases h

theorem step_cases {P : Program} {s : St} {ch : Choice} {out : Out} (h : step P s ch = some out) :
    (∃ t ord pick, ch = .run t ord pick ∧ stepTask { P := P, t := t, ord := ord, pick := pick } s = some out) ∨
    (Resched s out.1 ∧ out.2 = []) := by
  cases ch with
  | run t ord pick => exact Or.inl ⟨t, ord, pick, rfl, h⟩
  | gate n inv att =>
    rw [step_gate h]
    exact Or.inr ⟨.of_map s _ (gateDone_resched n inv att), rfl⟩
  | timer t =>
    obtain ⟨tk, _, _, _, _, htk, hst, rfl⟩ := step_timer h
    exact Or.inr ⟨.setTask htk ⟨rfl, rfl, Or.inr ⟨⟨_, hst⟩, _, rfl⟩, id⟩, rfl⟩
  | cancelCaller => cases h; exact Or.inr ⟨.cancelTask s 0, rfl⟩

/-! ### invariants that speak of each frame by itself -/

/-- `ex`: the task whose section is running; its frames are about to be replaced (`FramesAll.finish`) -/
def FramesAll (F : Frame → Prop) (ex : Option Nat) (s : St) : Prop :=
  ∀ (i : Nat) (tk : Task), s.tasks[i]? = some tk → some i ≠ ex → ∀ f ∈ tk.frames, F f

theorem FramesAll.resched {F : Frame → Prop} {ex : Option Nat} {s s' : St} (h : FramesAll F ex s) (r : Resched s s') :
    FramesAll F ex s' := by
  intro i tk' hi hne
  obtain ⟨tk, h0, rt⟩ := r.back hi
  rw [rt.frames]; exact h i tk h0 hne

theorem FramesAll.tasks_eq {F : Frame → Prop} {ex : Option Nat} {s s' : St} (h : FramesAll F ex s)
    (e : s'.tasks = s.tasks) : FramesAll F ex s' := by
  unfold FramesAll; rw [e]; exact h

theorem FramesAll.spawn {F : Frame → Prop} {ex : Option Nat} {s : St} (h : FramesAll F ex s) {fs : List Frame}
    (hf : ∀ f ∈ fs, F f) (nm : TaskName) : FramesAll F ex (spawn s fs nm).1 := by
  intro i tk hi hne
  rcases getElem?_spawn hi with h0 | rfl
  · exact h i tk h0 hne
  · exact hf

theorem FramesAll.finish {F : Frame → Prop} {c : Ctx} {s : St} (h : FramesAll F (some c.t) s) {fs : List Frame}
    (hf : ∀ f ∈ fs, F f) (obs : List Obs) (st : TaskSt) : FramesAll F none (finish c s obs fs st).1 := by
  have close : ∀ tk' : Task, tk'.frames = fs → FramesAll F none (s.setTask c.t tk') := by
    intro tk' e i tk hi _
    rcases getElem?_setTask_cases hi with ⟨_, rfl⟩ | ⟨hit, h0⟩
    · exact e ▸ hf
    · exact h i tk h0 (fun e => hit (Option.some.inj e))
  unfold Eng.finish
  split
  · next hn =>
    intro i tk hi _
    exact h i tk hi (fun e => by cases e; rw [hn] at hi; cases hi)
  · split
    · exact close _ rfl
    · exact close _ rfl

theorem FramesAll.open {F : Frame → Prop} {s : St} (h : FramesAll F none s) (t : Nat) : FramesAll F (some t) s :=
  fun i tk hi _ => h i tk hi (by simp)

end MLPE.Eng
