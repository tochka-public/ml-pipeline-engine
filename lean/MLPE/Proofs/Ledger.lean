import MLPE.Proofs.Acts

/-!
# Ledger: every artifact save is paid for by a successful `on_node_complete`, every successful
`on_node_complete` by an `on_node_start`, every `on_node_start` by an invocation counted in the storage

All programs, all schedules.  Three event counters over the observation log of an execution
(`save n _`, `ncomplete n none`, `nstart n`) and two kinds of *tokens* held by frames of suspended tasks:

* `fB`: a `_run_node` frame that has emitted `on_node_start` for `n` and no final `on_node_complete` yet
  (suspended in `on_node_start`, awaiting a body, sleeping before a retry, suspended in the
  `on_node_complete(error)` of a retried attempt);
* `fA`: a `_run_node` frame that has emitted the successful `on_node_complete` and has not yet reached the
  decision to save (suspended in that callback).

Invariant (`Acc`): for every node `m`
`saves m + #fA-tokens m ≤ okCompletes m`,  `okCompletes m + #fB-tokens m ≤ starts m`,  `starts m = invCount m`.
Inside a section the same is said by `Bud` about the stack the running task would suspend with; it is kept by every
action of a section (`Proofs/Acts.lean`): `nodeStart` mints a token with the invocation it counts, `nodeOk` turns it
into the token of a reported success, `nodeSave` spends that one; everything else moves or drops tokens.  The arithmetic is
said once: `Bud.move` — reports that the tokens given up pay for (`Pays`) keep the balance; `Bud.mono` (`Wle`) is the case of no
report.

The same pass carries two tokens of the caller's task (`fM`: `on_pipeline_start` not yet reported, `fW`:
`on_pipeline_complete` not yet reported — the latter under the hypothesis `Tot.hyp` that the event manager does not raise
there): each is reported at most once (`ledger_pipeline`).  That `on_pipeline_start` comes first is a separate induction at
the end of the file (`first_event`).
-/
namespace MLPE.Eng
open MLPE

/-! ### counting -/

def cnt (e : Obs → Nat) : List Obs → Nat
  | [] => 0
  | o :: os => e o + cnt e os

@[simp] theorem cnt_nil (e : Obs → Nat) : cnt e [] = 0 := rfl
@[simp] theorem cnt_cons (e : Obs → Nat) (o : Obs) (os : List Obs) : cnt e (o :: os) = e o + cnt e os := rfl
@[simp] theorem cnt_append (e : Obs → Nat) (a b : List Obs) : cnt e (a ++ b) = cnt e a + cnt e b := by
  induction a with
  | nil => simp
  | cons o os ih => simp [ih]; omega

def unit (n m : Node) : Nat := if n = m then 1 else 0

/-- `artifact_store.save(node_id = m, …)` -/
def evS (m : Node) : Obs → Nat
  | .save n _ => unit n m
  | _ => 0
/-- `on_node_complete(node_id = m, error = None)` -/
def evO (m : Node) : Obs → Nat
  | .ncomplete n none => unit n m
  | _ => 0
/-- `on_node_start(node_id = m)` -/
def evN (m : Node) : Obs → Nat
  | .nstart n => unit n m
  | _ => 0

/-- `on_pipeline_start` -/
def evP : Obs → Nat
  | .pstart => 1
  | _ => 0
/-- `on_pipeline_complete(…)` -/
def evC : Obs → Nat
  | .pcomplete _ => 1
  | _ => 0

def Obs.neutral : Obs → Bool
  | .save .. => false
  | .ncomplete _ none => false
  | .nstart _ => false
  | .pstart => false
  | .pcomplete _ => false
  | _ => true

theorem neutral_ev {o : Obs} (h : o.neutral = true) (m : Node) :
    evS m o = 0 ∧ evO m o = 0 ∧ evN m o = 0 ∧ evP o = 0 ∧ evC o = 0 := by
  cases o <;> simp [Obs.neutral, evS, evO, evN, evP, evC] at h ⊢
  next n err => cases err <;> simp_all

/-! ### tokens held by frames -/

def fA (m : Node) : Frame → Nat
  | .node _ n _ (.cbOk ..) => unit n m
  | _ => 0

def fB (m : Node) : Frame → Nat
  | .node _ n _ (.cbStart ..) => unit n m
  | .node _ n _ (.body ..) => unit n m
  | .node _ n _ (.sleep ..) => unit n m
  | .node _ n _ (.cbRetry ..) => unit n m
  | _ => 0

def fM : Frame → Nat
  | .mgrStart => 1
  | _ => 0

def fW : Frame → Nat
  | .mgrStart => 1
  | .mgrCbStart _ => 1
  | .mgrWait => 1
  | _ => 0

def sumF (f : Frame → Nat) : List Frame → Nat
  | [] => 0
  | x :: xs => f x + sumF f xs

@[simp] theorem sumF_nil (f : Frame → Nat) : sumF f [] = 0 := rfl
@[simp] theorem sumF_cons (f : Frame → Nat) (x : Frame) (xs : List Frame) : sumF f (x :: xs) = f x + sumF f xs := rfl

def lsum (G : List Frame → Nat) : List (List Frame) → Nat
  | [] => 0
  | x :: xs => G x + lsum G xs

/-- all stacks but the one at index `t` -/
def rsum (G : List Frame → Nat) : List (List Frame) → Nat → Nat
  | [], _ => 0
  | _ :: xs, 0 => lsum G xs
  | x :: xs, t + 1 => G x + rsum G xs t

theorem lsum_eq_rsum (G : List Frame → Nat) : ∀ (l : List (List Frame)) (t : Nat),
    lsum G l = rsum G l t + l[t]?.elim 0 G
  | [], t => by simp [lsum, rsum]
  | y :: ys, 0 => by simp [lsum, rsum]; omega
  | y :: ys, t + 1 => by simp [lsum, rsum, lsum_eq_rsum G ys t]; omega

theorem rsum_set (G : List Frame → Nat) : ∀ (l : List (List Frame)) (t : Nat) (x : List Frame),
    rsum G (l.set t x) t = rsum G l t
  | [], t, x => by simp [rsum]
  | y :: ys, 0, x => by simp [rsum]
  | y :: ys, t + 1, x => by simp [rsum, rsum_set G ys t x]

theorem lsum_set_le (G : List Frame → Nat) (l : List (List Frame)) (t : Nat) (x : List Frame) :
    lsum G (l.set t x) ≤ rsum G l t + G x := by
  rw [lsum_eq_rsum G _ t, rsum_set, List.getElem?_set_self']
  cases l[t]? <;> simp

theorem lsum_append (G : List Frame → Nat) (a b : List (List Frame)) : lsum G (a ++ b) = lsum G a + lsum G b := by
  induction a with
  | nil => simp [lsum]
  | cons x xs ih => simp [lsum, ih]; omega

theorem rsum_append_zero (G : List Frame → Nat) (y : List Frame) (hy : G y = 0) : ∀ (l : List (List Frame)) (t : Nat),
    rsum G (l ++ [y]) t = rsum G l t
  | [], 0 => by simp [rsum, lsum]
  | [], t + 1 => by simp [rsum, hy]
  | x :: xs, 0 => by simp [rsum, lsum_append, lsum, hy]
  | x :: xs, t + 1 => by simp [rsum, rsum_append_zero G y hy xs t]

/-! ### the invariant -/

/-- event totals before the current section; `hyp`: the event manager does not raise in `on_pipeline_complete` -/
structure Tot where
  kS : Node → Nat
  kO : Node → Nat
  kN : Node → Nat
  kP : Nat
  kC : Nat
  hyp : Prop

/-- between sections -/
def Acc (k : Tot) (s : St) : Prop :=
  (∀ m, k.kS m + lsum (sumF (fA m)) (stacks s) ≤ k.kO m
     ∧ k.kO m + lsum (sumF (fB m)) (stacks s) ≤ k.kN m
     ∧ k.kN m = s.invCount m)
  ∧ k.kP + lsum (sumF fM) (stacks s) ≤ 1
  ∧ (k.hyp → k.kC + lsum (sumF fW) (stacks s) ≤ 1)

/-- inside a section of task `c.t`, whose stack would be `fs` if it suspended now -/
def Bud (k : Tot) (c : Ctx) (s : St) (obs : List Obs) (fs : List Frame) : Prop :=
  (∀ m, k.kS m + cnt (evS m) obs + rsum (sumF (fA m)) (stacks s) c.t + sumF (fA m) fs ≤ k.kO m + cnt (evO m) obs
     ∧ k.kO m + cnt (evO m) obs + rsum (sumF (fB m)) (stacks s) c.t + sumF (fB m) fs ≤ k.kN m + cnt (evN m) obs
     ∧ k.kN m + cnt (evN m) obs = s.invCount m)
  ∧ k.kP + cnt evP obs + rsum (sumF fM) (stacks s) c.t + sumF fM fs ≤ 1
  ∧ (k.hyp → k.kC + cnt evC obs + rsum (sumF fW) (stacks s) c.t + sumF fW fs ≤ 1)

/-- at the end of a section -/
def Post (k : Tot) (out : Out) : Prop :=
  (∀ m, k.kS m + cnt (evS m) out.2 + lsum (sumF (fA m)) (stacks out.1) ≤ k.kO m + cnt (evO m) out.2
     ∧ k.kO m + cnt (evO m) out.2 + lsum (sumF (fB m)) (stacks out.1) ≤ k.kN m + cnt (evN m) out.2
     ∧ k.kN m + cnt (evN m) out.2 = out.1.invCount m)
  ∧ k.kP + cnt evP out.2 + lsum (sumF fM) (stacks out.1) ≤ 1
  ∧ (k.hyp → k.kC + cnt evC out.2 + lsum (sumF fW) (stacks out.1) ≤ 1)

def Tot.add (k : Tot) (obs : List Obs) : Tot :=
  ⟨fun m => k.kS m + cnt (evS m) obs, fun m => k.kO m + cnt (evO m) obs, fun m => k.kN m + cnt (evN m) obs,
   k.kP + cnt evP obs, k.kC + cnt evC obs, k.hyp⟩

theorem acc_of_post {k : Tot} {out : Out} (h : Post k out) : Acc (k.add out.2) out.1 := h

theorem Bud.same {k : Tot} {c : Ctx} {s s' : St} {obs : List Obs} {fs : List Frame} (h : Bud k c s obs fs)
    (hs : SameL s s') : Bud k c s' obs fs := by
  unfold Bud at h ⊢; rw [hs.1, hs.2]; exact h

/-- the reports `r` and the stack `fs'` together claim no more than the stack `fs` held: a save spends the token of a
reported success, a reported success that of a start, the reports about the pipeline those of the caller -/
def Pays (r : List Obs) (fs' fs : List Frame) : Prop :=
  (∀ m, cnt (evS m) r + sumF (fA m) fs' ≤ cnt (evO m) r + sumF (fA m) fs ∧
        cnt (evO m) r + sumF (fB m) fs' ≤ cnt (evN m) r + sumF (fB m) fs) ∧
  cnt evP r + sumF fM fs' ≤ sumF fM fs ∧ cnt evC r + sumF fW fs' ≤ sumF fW fs

/-- the arithmetic of a section: reports that are paid for keep the ledger in balance, while the stack the task would
suspend with changes from `fs` to `fs'` -/
theorem Bud.move {k : Tot} {c : Ctx} {s s' : St} {obs : List Obs} {fs : List Frame} (h : Bud k c s obs fs) (r : List Obs)
    (fs' : List Frame) (hp : Pays r fs' fs) (hst : stacks s' = stacks s)
    (hN : ∀ m, s'.invCount m = s.invCount m + cnt (evN m) r) : Bud k c s' (obs ++ r) fs' := by
  obtain ⟨h1, h2, h3⟩ := h
  obtain ⟨p1, p2, p3⟩ := hp
  simp only [Bud, cnt_append, hst, hN]
  exact ⟨fun m => by have := h1 m; have := p1 m; omega, by omega, fun hp => by have := h3 hp; omega⟩

def Wle (fs' fs : List Frame) : Prop :=
  (∀ m, sumF (fA m) fs' ≤ sumF (fA m) fs ∧ sumF (fB m) fs' ≤ sumF (fB m) fs) ∧
  sumF fM fs' ≤ sumF fM fs ∧ sumF fW fs' ≤ sumF fW fs

theorem Bud.mono {k : Tot} {c : Ctx} {s : St} {obs : List Obs} {fs fs' : List Frame} (h : Bud k c s obs fs)
    (hw : Wle fs' fs) : Bud k c s obs fs' := by
  have := h.move (s' := s) [] fs' (by simpa [Pays, Wle] using hw) rfl (fun _ => rfl)
  rwa [List.append_nil] at this

theorem Bud.emit {k : Tot} {c : Ctx} {s : St} {obs : List Obs} {fs : List Frame} (h : Bud k c s obs fs)
    (o : Obs) (ho : o.neutral = true) : Bud k c s (obs ++ [o]) fs := by
  have e := neutral_ev ho
  refine h.move [o] fs ?_ rfl (fun m => by simp [(e m).2.2.1])
  simp only [Pays, cnt_cons, cnt_nil]
  exact ⟨fun m => by have := e m; omega, by have := e 0; omega, by have := e 0; omega⟩

/-- tokens, as representative frames -/
def tokA (n : Node) : Frame := .node default n false (.cbOk 0 .none)
def tokB (n : Node) : Frame := .node default n false (.cbStart 0 0)
def tokM : Frame := .mgrStart
def tokW : Frame := .mgrWait

@[simp] theorem fA_tokA (m n : Node) : fA m (tokA n) = unit n m := rfl
@[simp] theorem fB_tokA (m n : Node) : fB m (tokA n) = 0 := rfl
@[simp] theorem fA_tokB (m n : Node) : fA m (tokB n) = 0 := rfl
@[simp] theorem fB_tokB (m n : Node) : fB m (tokB n) = unit n m := rfl
@[simp] theorem fM_tokA (n : Node) : fM (tokA n) = 0 := rfl
@[simp] theorem fW_tokA (n : Node) : fW (tokA n) = 0 := rfl
@[simp] theorem fM_tokB (n : Node) : fM (tokB n) = 0 := rfl
@[simp] theorem fW_tokB (n : Node) : fW (tokB n) = 0 := rfl
@[simp] theorem fM_tokM : fM tokM = 1 := rfl
@[simp] theorem fW_tokM : fW tokM = 1 := rfl
@[simp] theorem fM_tokW : fM tokW = 0 := rfl
@[simp] theorem fW_tokW : fW tokW = 1 := rfl
@[simp] theorem fA_tokM (m : Node) : fA m tokM = 0 := rfl
@[simp] theorem fB_tokM (m : Node) : fB m tokM = 0 := rfl
@[simp] theorem fA_tokW (m : Node) : fA m tokW = 0 := rfl
@[simp] theorem fB_tokW (m : Node) : fB m tokW = 0 := rfl

/-- `wt`: the four inequalities of a `Wle` or `Pays` between concrete frame lists — split, unfold the weights of the frames
named, and what is left is linear arithmetic over the weights of the common tail -/
macro "wt" : tactic =>
  `(tactic| (refine ⟨fun m => ⟨?_, ?_⟩, ?_, ?_⟩ <;>
      simp [fA, fB, fM, fW, tokA, tokB, tokM, tokW, evS, evO, evN, evP, evC] <;> omega))

theorem Bud.nstart {k : Tot} {c : Ctx} {s : St} {obs : List Obs} {fs : List Frame} (h : Bud k c s obs fs) (n : Node) :
    Bud k c (s.markProcessed n) (obs ++ [.nstart n]) (tokB n :: fs) := by
  refine h.move [_] _ (by wt) rfl fun m => ?_
  simp only [St.markProcessed, upd, evN, unit, cnt_cons, cnt_nil]
  by_cases hmn : m = n
  · simp [hmn]
  · simp [hmn, Ne.symm hmn]

/-- a second `on_pipeline_complete` (the first one raised): only when the hypothesis "does not raise" is false -/
theorem Bud.pcompleted_again {k : Tot} {c : Ctx} {s : St} {obs : List Obs} {fs : List Frame}
    (h : Bud k c s obs fs) (o : Outcome) (hn : ¬ k.hyp) : Bud k c s (obs ++ [.pcomplete o]) fs := by
  obtain ⟨h1, h2, h3⟩ := h
  simp only [Bud, cnt_append, cnt_cons, cnt_nil, evS, evO, evN, evP, evC] at h1 h2 h3 ⊢
  exact ⟨fun m => by have := h1 m; omega, by omega, fun hp => absurd hp hn⟩

def Wzero (fr : Frame) : Prop := (∀ m, fA m fr = 0 ∧ fB m fr = 0) ∧ fM fr = 0 ∧ fW fr = 0

theorem Bud.spawned {k : Tot} {c : Ctx} {s : St} {obs : List Obs} {fs : List Frame} (h : Bud k c s obs fs)
    (fr : Frame) (nm : TaskName) (hz : Wzero fr) :
    Bud k c (Eng.spawn s [fr] nm).1 obs fs := by
  obtain ⟨h1, h2, h3⟩ := h
  obtain ⟨z1, z2, z3⟩ := hz
  have hst := stacks_spawn s fr nm
  have hinv : (Eng.spawn s [fr] nm).1.invCount = s.invCount := rfl
  unfold Bud
  rw [hst, hinv, rsum_append_zero _ _ (by simp [z2]), rsum_append_zero _ _ (by simp [z3])]
  refine ⟨fun m => ?_, h2, h3⟩
  rw [rsum_append_zero _ _ (by simp [(z1 m).1]), rsum_append_zero _ _ (by simp [(z1 m).2])]
  exact h1 m

/-! ### how a section ends -/

/-- the stack `fs` goes back among the others -/
theorem post_of_bud {k : Tot} {c : Ctx} {s s' : St} {obs : List Obs} {fs : List Frame} (h : Bud k c s obs fs)
    (hl : ∀ G, lsum G (stacks s') ≤ rsum G (stacks s) c.t + G fs) (hinv : s'.invCount = s.invCount) : Post k (s', obs) := by
  obtain ⟨h1, h2, h3⟩ := h
  simp only [Post, hinv]
  exact ⟨fun m => by have := h1 m; have := hl (sumF (fA m)); have := hl (sumF (fB m)); omega,
    by have := hl (sumF fM); omega, fun hp => by have := h3 hp; have := hl (sumF fW); omega⟩

theorem post_finish {k : Tot} {c : Ctx} {s : St} {obs : List Obs} {fs : List Frame} (h : Bud k c s obs fs) (st : TaskSt) :
    Post k (finish c s obs fs st) := by
  have set : ∀ (tk' : Task) G, tk'.frames = fs → lsum G (stacks (s.setTask c.t tk')) ≤ rsum G (stacks s) c.t + G fs :=
    fun tk' G e => by rw [stacks_setTask, e]; exact lsum_set_le ..
  unfold finish
  split
  · next hn => exact post_of_bud h (fun G => by rw [lsum_eq_rsum G _ c.t]; simp [stacks, hn]) rfl
  · split
    · next r => exact post_of_bud (h.emit (.done c.t r) rfl) (fun G => set _ G rfl) rfl
    · exact post_of_bud h (fun G => set _ G rfl) rfl

/-! ### the actions of a section -/

theorem Obs.neutral_of_quiet {o : Obs} (h : o.quiet = true) : o.neutral = true := by
  cases o with
  | ncomplete n err => cases err <;> first | rfl | cases h
  | _ => first | rfl | cases h

theorem neutral_ncomplete_some (n : Node) (e : Exc) : (Obs.ncomplete n (some e)).neutral = true := rfl

theorem Frame.wzero_of_fresh {fr : Frame} (h : fr.fresh = true) : Wzero fr := by
  cases fr with
  | node d n force pc => cases pc <;> cases force <;> first | exact ⟨fun m => ⟨rfl, rfl⟩, rfl, rfl⟩ | cases h
  | _ => first | exact ⟨fun m => ⟨rfl, rfl⟩, rfl, rfl⟩ | cases h

theorem Wle.sameCb {pc pc' : NodePc} (h : pc.SameCb pc') (d : DagRef) (n : Node) (f f' : Bool) (fs : List Frame) :
    Wle (.node d n f' pc' :: fs) (.node d n f pc :: fs) := by
  cases h <;> wt

theorem bud_act {k : Tot} {c : Ctx} {x y : Conf} (a : Act c x y) (h : Bud k c x.s x.obs x.fs) :
    Bud k c y.s y.obs y.fs := by
  cases a with
  | resched r => exact h.same (.of_resched r)
  | silent e => exact h.same (.of_silent e)
  | emit o ho => exact h.emit o (Obs.neutral_of_quiet ho)
  | spawn fr nm hf => exact h.spawned fr nm (Frame.wzero_of_fresh hf)
  | pop => exact h.mono (by wt)
  | push f hf =>
    cases f with
    | dagLaunch | dagWaitDest | switchRet | oneofWait => exact h.mono (by wt)
    | _ => cases hf
  | refresh ns => exact h.same (sameL_refresh ..)
  | iterFirst | iterNext => exact (h.same (sameL_invalidate ..)).mono (by wt)
  | forcedFirst | forcedNext => exact (h.same (sameL_hide ..)).mono (by wt)
  | nodeWait | nodeArgs | nodeNext | nodeRetry | nodeSleep | nodeFail => exact h.mono (by wt)
  | nodeCb hpc _ => exact h.mono (Wle.sameCb hpc ..)
  -- the one place a token is minted: drop the `.start` frame, report `on_node_start` (with the invocation it counts) for
  -- the token `tokB n`, and let the `cbStart` frame hold that token
  | @nodeStart _ _ fs _ n _ _ => exact ((h.mono (fs' := fs) (by wt)).nstart n).mono (by wt)
  | nodeCall | nodeDflt => exact h.emit _ rfl
  | nodeOk | nodeSave => exact h.move [_] _ (by wt) rfl fun _ => rfl

theorem bud_callerAct {k : Tot} {c : Ctx} (hk : k.hyp → c.P.cbRaise .pcomplete 0 = none) {x y : Conf}
    (a : CallerAct c x y) (h : Bud k c x.s x.obs x.fs) : Bud k c y.s y.obs y.fs := by
  cases a with
  | engine a => exact bud_act a h
  | start | complete => exact h.move [_] _ (by wt) rfl fun _ => rfl
  | cbStart | begin | cbComplete => exact h.mono (by wt)
  | again o he => exact h.pcompleted_again o (fun hp => by rw [hk hp] at he; cases he)

theorem Runs.ledger {A : Conf → Conf → Prop} {k : Tot} {c : Ctx} {x : Conf} {out : Out} (hr : Runs A c x out)
    (hA : ∀ x y, A x y → Bud k c x.s x.obs x.fs → Bud k c y.s y.obs y.fs) (h : Bud k c x.s x.obs x.fs) : Post k out :=
  hr.post (Q := fun x => Bud k c x.s x.obs x.fs) hA (fun _ _ _ st hq => post_finish hq st) (fun _ _ ho => ho) h

/-! ### three handlers of `_run_node`, from the walk -/

section handlers
variable {k : Tot} {c : Ctx}

theorem post_nodeStart {s : St} {obs : List Obs} {below : List Frame} (h : Bud k c s obs below)
    (d : DagRef) (n : Node) (force : Bool) : Post k (nodeStart c s obs d n force below) :=
  (runs_nodeStart s obs d n force below).ledger (fun _ _ => bud_act) (h.mono (by wt))

theorem post_nodeSuccess {s : St} {obs : List Obs} {below : List Frame} (h : Bud k c s obs (tokB n :: below)) (d : DagRef)
    (v : Val) : Post k (nodeSuccess c s obs d n below v) :=
  (runs_nodeSuccess s obs d n false 0 [] 0 v below).ledger (fun _ _ => bud_act) (h.mono (by wt))

theorem post_nodePost {s : St} {obs : List Obs} {below : List Frame} (d : DagRef) (n : Node) (v : Val) (own : Bool)
    (h : Bud k c s obs (if own then tokA n :: below else below)) : Post k (nodePost c s obs d n below v own) := by
  cases own
  · exact (runs_nodePost s obs d n false .start below v false (fun h => nomatch h)).ledger (fun _ _ => bud_act)
      (h.mono (by wt))
  · exact (runs_nodePost s obs d n false (.cbOk 0 v) below v true (fun _ _ _ => ⟨0, rfl⟩)).ledger (fun _ _ => bud_act)
      (h.mono (by wt))

end handlers

/-! ### sections, steps, executions -/

theorem bud_of_acc {k : Tot} {c : Ctx} {s : St} {tk : Task} (h : Acc k s) (htk : s.tasks[c.t]? = some tk) :
    Bud k c s [] tk.frames := by
  obtain ⟨h1, h2, h3⟩ := h
  have e : ∀ G, lsum G (stacks s) = rsum G (stacks s) c.t + G tk.frames := fun G => by
    rw [lsum_eq_rsum G _ c.t]; simp [stacks, htk]
  -- with no report yet the totals are `k`'s; what remains is the association of the sums
  simp only [e, ← Nat.add_assoc] at h1 h2 h3
  exact ⟨h1, h2, h3⟩

theorem post_stepTask {k : Tot} {c : Ctx} {s : St} {out : Out} (h : Acc k s) (hs : stepTask c s = some out)
    (hk : k.hyp → c.P.cbRaise .pcomplete 0 = none) : Post k out := by
  obtain ⟨tk, htk, hr⟩ := stepTask_runs hs
  exact hr.ledger (fun _ _ => bud_callerAct hk) (bud_of_acc h htk)

theorem post_step {k : Tot} {P : Program} {s : St} {ch : Choice} {out : Out} (h : Acc k s)
    (hs : step P s ch = some out) (hk : k.hyp → P.cbRaise .pcomplete 0 = none) : Post k out := by
  rcases step_cases hs with ⟨t, ord, pick, -, hst⟩ | ⟨hr, ho⟩
  · exact post_stepTask (c := { P := P, t := t, ord := ord, pick := pick }) h hst hk
  · obtain ⟨e1, e2⟩ := SameL.of_resched hr
    have : Acc k out.1 := by unfold Acc at h ⊢; rw [e1, e2]; exact h
    rw [show out = (out.1, []) from Prod.ext rfl ho]
    exact this

def totOf (P : Program) (log : List Obs) : Tot :=
  ⟨fun m => cnt (evS m) log, fun m => cnt (evO m) log, fun m => cnt (evN m) log, cnt evP log, cnt evC log,
   P.cbRaise .pcomplete 0 = none⟩

theorem totOf_append (P : Program) (log obs : List Obs) : totOf P (log ++ obs) = (totOf P log).add obs := by
  simp [totOf, Tot.add, cnt_append]

theorem acc_init (P : Program) : Acc (totOf P []) init := by
  refine ⟨fun m => ?_, ?_, fun _ => ?_⟩ <;> simp [totOf, init, stacks, lsum, fA, fB, fM, fW]

/-- **the ledger holds in every execution** (all programs, all schedules) -/
theorem acc_exec {P : Program} {s : St} {log : List Obs} (h : Exec P s log) : Acc (totOf P log) s := by
  induction h with
  | init => exact acc_init P
  | step _ hs ih =>
    rw [totOf_append]
    exact acc_of_post (post_step ih hs (fun hp => hp))

theorem ledger {P : Program} {s : St} {log : List Obs} (h : Exec P s log) (m : Node) :
    cnt (evS m) log ≤ cnt (evO m) log ∧ cnt (evO m) log ≤ cnt (evN m) log ∧ cnt (evN m) log = s.invCount m := by
  have := (acc_exec h).1 m
  simp only [totOf] at this
  omega

/-- `on_pipeline_start` is emitted at most once in an execution; and when the event manager does not raise in
`on_pipeline_complete`, that event is emitted at most once too -/
theorem ledger_pipeline {P : Program} {s : St} {log : List Obs} (h : Exec P s log) :
    cnt evP log ≤ 1 ∧ (P.cbRaise .pcomplete 0 = none → cnt evC log ≤ 1) := by
  obtain ⟨_, h2, h3⟩ := acc_exec h
  simp only [totOf] at h2 h3
  exact ⟨by omega, fun hp => by have := h3 hp; omega⟩

/-! ### `on_pipeline_start` comes first -/

/-- the section only appends to the observations it was given -/
def Pre (obs : List Obs) (out : Out) : Prop := ∃ r, out.2 = obs ++ r

theorem Pre.app {obs l : List Obs} {out : Out} (h : Pre (obs ++ l) out) : Pre obs out := by
  obtain ⟨r, hr⟩ := h; exact ⟨l ++ r, by simp [hr]⟩

theorem mgrStart_head (c : Ctx) (s : St) : (mgrStart c s []).2.head? = some .pstart := by
  obtain ⟨r, hr⟩ := (runs_mgrStarted (c := c) s []).obs_prefix (fun _ _ => CallerAct.obs_prefix)
  rw [hr]; rfl

def init' : St := cancelTask init 0

theorem cancel_init : cancelTask init 0 = init' := rfl
theorem cancel_init' : cancelTask init' 0 = init' := rfl

theorem first_step (P : Program) (s : St) (hs0 : s = init ∨ s = init') (ch : Choice) (s' : St) (obs : List Obs)
    (h : step P s ch = some (s', obs)) :
    (obs = [] ∧ (s' = init ∨ s' = init')) ∨ obs.head? = some .pstart ∨ obs.head? = some (.returned .cancelled) := by
  cases ch with
  | cancelCaller =>
    simp only [step, Option.some.injEq, Prod.mk.injEq] at h
    obtain ⟨rfl, rfl⟩ := h
    rcases hs0 with rfl | rfl
    · exact Or.inl ⟨rfl, Or.inr rfl⟩
    · exact Or.inl ⟨rfl, Or.inr rfl⟩
  | gate n inv att =>
    rcases hs0 with rfl | rfl <;> simp [step, init, init', cancelTask, St.setTask, gateMatches] at h
  | timer t =>
    rcases hs0 with rfl | rfl
    · simp only [step, init] at h
      cases t with
      | zero => simp at h
      | succ t => simp at h
    · simp only [step, init', init, cancelTask, St.setTask] at h
      cases t with
      | zero => simp at h
      | succ t => simp at h
  | run t ord pick =>
    rcases hs0 with rfl | rfl
    · cases t with
      | zero =>
        simp only [step, stepTask, init, List.getElem?_cons_zero] at h
        simp only [Bool.false_eq_true, if_false, Option.some.injEq] at h
        right; left
        have := mgrStart_head { P := P, t := 0, ord := ord, pick := pick } init
        simp only [init] at this
        rw [h] at this
        exact this
      | succ t => simp [step, stepTask, init] at h
    · cases t with
      | zero =>
        simp only [step, stepTask, init', init, cancelTask, St.setTask, List.getElem?_cons_zero, List.set_cons_zero] at h
        simp only [if_true, Option.some.injEq, deliverCancel] at h
        right; right
        have h2 := congrArg Prod.snd h
        simp only [endTask, List.getElem?_cons_zero] at h2
        rw [← h2]; rfl
      | succ t => simp [step, stepTask, init', init, cancelTask, St.setTask] at h

/-- **`on_pipeline_start` before anything else** (all programs, all schedules): the observation log of every execution is
empty, or begins with `on_pipeline_start`, or — the caller was cancelled before `chart.run` got its first turn — with the
return of `CancelledError` -/
theorem first_event {P : Program} {s : St} {log : List Obs} (h : Exec P s log) :
    (log = [] ∧ (s = init ∨ s = init')) ∨ log.head? = some .pstart ∨ log.head? = some (.returned .cancelled) := by
  induction h with
  | init => exact Or.inl ⟨rfl, Or.inl rfl⟩
  | @step s0 s1 log0 obs ch _ hs ih =>
    rcases ih with ⟨rfl, h0⟩ | hh
    · simpa using first_step P s0 h0 ch s1 obs hs
    · right
      cases log0 with
      | nil => simp at hh
      | cons x xs => simpa using hh

end MLPE.Eng
