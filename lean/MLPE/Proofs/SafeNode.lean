import MLPE.Proofs.Safe
import MLPE.Proofs.CoreInv

/-!
# Switch / one-of pipelines: the handlers of `_run_node` preserve the value invariant

One lemma `safe_<handler>` per handler, from a section in progress (`Sec`) to `Good` (the invariant again, every observation
justified); then the arguments: what the engine binds for an available source (`SrcReady.read`, `kwStep_sem`), the fold over the
incoming edges (`kw_fold`, `nodeKwargs_cases`), and the start of a node (`safe_nodeStart`).
-/
namespace MLPE.Eng
open MLPE

variable {val : Node → Option Val}
variable {c : Ctx} {fs below : List Frame} {s s' : St} {obs : List Obs}

/-! ### the node coroutine -/

/-- what every frame of node `n` of DAG `d` carries, whatever its pc -/
structure NodeOK (val : Node → Option Val) (c : Ctx) (s : St) (d : DagRef) (n : Node) : Prop where
  fl  : DagFl c.P d
  ord : Ord c.P n
  dem : Lz s (Demanded c.P val n)

theorem NodeOK.frame {d : DagRef} {n : Node} (h : NodeOK val c s d n) {pc : NodePc} (hpc : PcOK c.P val s n pc) :
    FrameOK c.P val s (.node d n false pc) := ⟨h.fl, rfl, h.ord, h.dem, hpc⟩

theorem NodeOK.mono {d : DagRef} {n : Node} (h : NodeOK val c s d n) (g : Grows s s') : NodeOK val c s' d n :=
  ⟨h.fl, h.ord, h.dem.mono g⟩

theorem FrameOK.node {d : DagRef} {n : Node} {force : Bool} {pc : NodePc}
    (h : FrameOK c.P val s (.node d n force pc)) : force = false ∧ NodeOK val c s d n ∧ PcOK c.P val s n pc :=
  ⟨h.2.1, ⟨h.1, h.2.2.1, h.2.2.2.1⟩, h.2.2.2.2⟩

theorem safe_nodeFinish (x : Sec val c below s obs) (d : DagRef) (n : Node) :
    Good c.P val (nodeFinish c s obs d n below) :=
  (x.resched (.nodeFinally ..)).retTo .none

theorem safe_nodeCbRaise (x : Sec val c below s obs) (d : DagRef) (n : Node) {e : Exc} (he : ErrCause c.P val e) :
    Good c.P val (nodeCbRaise c s obs d n below e) :=
  (x.resched (.nodeFinally ..)).raise he

theorem safe_nodeCbRaiseInTry (x : Sec val c below s obs) (d : DagRef) (n : Node) {e : Exc} (he : CollabFails c.P e) :
    Good c.P val (nodeCbRaiseInTry c s obs d n below e) := by
  unfold nodeCbRaiseInTry
  split
  · exact safe_nodeCbRaise (x.emit (o := .ncomplete n (some e)) (Or.inr (Or.inl he))) d n (.collab he)
  · exact safe_nodeCbRaise x d n (.collab he)

/-- `_run_node` after `_execute_node` returned `v` in the task that executed the node -/
theorem safe_nodePost_exec (x : Sec val c below s obs) {d : DagRef} {n : Node} (hN : NodeOK val c s d n) {v : Val}
    (hv : val n = some v) (hok : v.isRecur = false ∧ v.isExc = false) :
    Good c.P val (nodePost c s obs d n below v true) := by
  have hr : ResOK c.P val n v := .value hv hok hN.ord.1
  have x1 := (x.store hr).emit (o := .save n v) ⟨hv, hok⟩
  rw [nodePost_value _ _ _ _ _ _ hok.1 hok.2]
  exact x1.cbCall (fun _ => (hN.mono (.store x.inv.data hr)).frame trivial) (safe_nodeFinish x1 d n)
    (fun e he => safe_nodeCbRaise x1 d n (.collab he))

/-- `_run_node` after `_execute_node` returned the node's failure as its result (inside a one-of scope): it is stored,
not saved, and the descendants are woken -/
theorem safe_nodePost_exc (x : Sec val c below s obs) (d : DagRef) (n : Node) {e : Exc} (hr : ResOK c.P val n (.exc e)) :
    Good c.P val (nodePost c s obs d n below (.exc e) true) := by
  rw [nodePost_exc]
  exact safe_nodeFinish (x.store hr) d n

/-- `_run_node` in a task that only waited for the node: nothing is stored, nothing is saved -/
theorem safe_nodePost_wait (x : Sec val c below s obs) (d : DagRef) (n : Node) :
    Good c.P val (nodePost c s obs d n below (s.get n) false) := by
  rw [nodePost_read _ _ _ _ _ _ (get_notRecur x.inv.data.vals n)]
  exact safe_nodeFinish x d n

theorem safe_nodeSuccess (x : Sec val c below s obs) {d : DagRef} {n : Node} (hN : NodeOK val c s d n) {v : Val}
    (hv : val n = some v) (hok : v.isRecur = false ∧ v.isExc = false) :
    Good c.P val (nodeSuccess c s obs d n below v) :=
  have x1 := x.emit (o := .ncomplete n none) (by show (val n).isSome = true; rw [hv]; rfl)
  x1.cbCall (fun _ => hN.frame ⟨hv, hok⟩) (safe_nodePost_exec x1 hN hv hok) (fun _ he => safe_nodeCbRaiseInTry x1 d n he)

theorem safe_nodeFailCont (x : Sec val c below s obs) {d : DagRef} {n : Node} (hN : NodeOK val c s d n) {e : Exc}
    (he : ErrCause c.P val e) (hv : val n = none) : Good c.P val (nodeFailCont c s obs d n below e) := by
  unfold nodeFailCont
  split
  · next hone => exact safe_nodePost_exc x d n (.exc hv he (hN.fl.one hone))
  · exact safe_nodeCbRaise x d n he

theorem safe_nodeFail (x : Sec val c below s obs) {d : DagRef} {n : Node} (hN : NodeOK val c s d n) {e : Exc}
    (he : ErrCause c.P val e) (hv : val n = none) : Good c.P val (nodeFail c s obs d n below e) :=
  have x1 := x.emit (o := .ncomplete n (some e)) (Or.inr (Or.inr ⟨he, hv⟩))
  x1.cbCall (fun _ => hN.frame ⟨he, hv⟩) (safe_nodeFailCont x1 hN he hv) (fun _ he' => safe_nodeCbRaise x1 d n (.collab he'))

theorem safe_nodeSleep (x : Sec val c below s obs) {d : DagRef} {n : Node} (hN : NodeOK val c s d n) {k : Nat} {kw : Kwargs}
    {inv : Nat} (ha : Att c.P val n (k + 1) kw inv) : Good c.P val (nodeSleep c s obs d n false below k kw inv) := by
  unfold nodeSleep
  dsimp only
  split
  · exact Sec.block ((x.emit (o := .sleep _) trivial).push (hN.frame ha))
  · exact Sec.yield (x.push (hN.frame ha))

/-- what the handler does with the attempt's outcome is what `Retry.decide` says (`Retry.nodeAfterBody_raise`), and `Att`
turns a decision into the next `Att` (`.retry`) or into the policy's final verdict `finalOf` (`.done`), of which the
solution speaks -/
theorem safe_nodeAfterBody (x : Sec val c below s obs) {d : DagRef} {n : Node} (hN : NodeOK val c s d n) {k : Nat}
    {kw : Kwargs} {inv : Nat} (ha : Att c.P val n k kw inv) :
    Good c.P val (nodeAfterBody c s obs d n false below k kw inv (c.P.body n kw inv k)) := by
  have hfin := ha.final
  have hnext := ha.next
  cases hbo : c.P.body n kw inv k with
  | ret v =>
    exact safe_nodeSuccess x hN (value_of_final (x.sol.plain n hN.ord.1 hN.ord.2) ha.preds (Or.inl (hfin _ (by rw [hbo]; rfl))))
      (x.sw.noRecur _ _ _ _ _ hbo)
  | raise e =>
    rw [hbo] at hfin hnext
    rw [Retry.nodeAfterBody_raise]
    split
    · next hd =>
      have x1 := x.emit (o := .ncomplete n (some e)) (Or.inl ⟨k, by rw [← ha.kw_eq, ← ha.inv0]; exact hbo⟩)
      exact x1.cbCall (fun _ => hN.frame (hnext hd)) (safe_nodeSleep x1 hN (hnext hd))
        (fun _ he' => safe_nodeCbRaiseInTry x1 d n he')
    · next v hd => exact absurd hd (Retry.decide_raise_ne_value _ _ _ _)
    · next hd =>
      rw [nodeDefault_of_none _ _ _ _ _ _ _ (x.sw.dfltOk _)]
      exact safe_nodeSuccess (x.emit (o := .dflt n kw) ⟨ha.kw_eq, ha.preds, hfin _ hd⟩) hN
        (value_of_final (x.sol.plain n hN.ord.1 hN.ord.2) ha.preds (Or.inr ⟨hfin _ hd, by rw [ha.kw_eq]⟩)) (x.sw.noRecurD _ _)
    · next e' hd =>
      have hnf : NodeFails c.P val n e' := ⟨ha.preds, hfin _ hd⟩
      split
      · exact safe_nodeFail x hN (.node hN.ord hnf) (none_of_failed (x.sol.plain n hN.ord.1 hN.ord.2) hnf)
      · exact safe_nodeCbRaise x d n (.node hN.ord hnf)

theorem safe_nodeAttempt (x : Sec val c below s obs) {d : DagRef} {n : Node} (hN : NodeOK val c s d n) {k : Nat}
    {kw : Kwargs} {inv : Nat} (ha : Att c.P val n k kw inv) :
    Good c.P val (nodeAttempt c s obs d n false below k kw inv) := by
  simp only [nodeAttempt, Bool.false_eq_true, if_false]
  have x1 := x.emit (o := .body n inv k kw) ha
  split
  · exact safe_nodeAfterBody x1 hN ha
  all_goals exact Sec.block ((x1.emit (o := .gate _ _ _) trivial).push (hN.frame ha))

/-! ### arguments -/

/-- the step of the fold in `kwFrom` -/
def semStep (val : Node → Option Val) (kw : Kwargs) (e : Edge) : Kwargs :=
  match e.kwarg with
  | some k => insertKw kw k ((val e.u).getD .none)
  | none => kw

/-- an available source: the parameter of the edge is bound to the stored result `w` of a node `c` that has the value of
the source — the source itself, or the case a switch source selected -/
theorem SrcReady.read {P : Program} (hsol : SolutionOne P val) {s : St} (hd : SData P val s) {e : Edge}
    (h : SrcReady P s e.u) : ∃ c w, s.res c = some w ∧ val e.u = val c ∧
      ∀ kw k, e.kwarg = some k → kwStep P s (.ok kw) e = kwPut kw k w := by
  unfold SrcReady at h
  split at h
  · next hsw =>
    cases hie : s.isErr e.u with
    | true =>
      -- the switch keeps its own no-case error (inside a one-of scope): that is what the engine reads
      obtain ⟨x, hru⟩ := (isErr_visible hd.resHid e.u).mp hie
      exact ⟨e.u, _, hru, rfl, fun kw k hk => by simp [kwStep, hk, hsw, hie, get_visible hd.resHid, hru]⟩
    | false =>
      rcases h with ⟨l, c, h1, h2⟩ | h
      · obtain ⟨w, hr⟩ := Option.isSome_iff_exists.mp h2
        exact ⟨c, w, hr, by rw [hsol.sw e.u hsw, (hd.swOK e.u l c h1).sel]; rfl,
          fun kw k hk => by simp [kwStep, hk, hsw, hie, h1, getHid_of_res hr]⟩
      · obtain ⟨w, hru⟩ := Option.isSome_iff_exists.mp h
        have hx := (hd.resOK hru).notSw hsw
        cases w <;> simp [Val.isExc] at hx
        next x => rw [(isErr_visible hd.resHid e.u).mpr ⟨x, hru⟩] at hie; cases hie
  · next hsw =>
    obtain ⟨w, hr⟩ := Option.isSome_iff_exists.mp h
    exact ⟨e.u, w, hr, rfl, fun kw k hk => by simp [kwStep, hk, hsw, getHid_of_res hr]⟩

theorem kwStep_sem {P : Program} (hsol : SolutionOne P val) {s : St} (hd : SData P val s) {e : Edge}
    (h : SrcReady P s e.u) (hnk : e.kwarg = none → HasHeads P → (val e.u).isSome = true) (kw : Kwargs) :
    ((val e.u).isSome = true ∧ kwStep P s (.ok kw) e = .ok (semStep val kw e)) ∨
    (∃ x, val e.u = none ∧ ErrCause P val x ∧ kwStep P s (.ok kw) e = .err x) := by
  obtain ⟨c, w, hr, hvu, hread⟩ := h.read hsol hd
  rw [hvu]
  rcases (hd.resOK hr).cases with ⟨hne, hv⟩ | ⟨x, rfl, hv, he, hh⟩
  · refine Or.inl ⟨by rw [hv]; rfl, ?_⟩
    unfold semStep
    cases hk : e.kwarg with
    | none => simp [kwStep, hk]
    | some k =>
      rw [hread kw k hk, hvu, hv]
      exact kwPut_of_not_exc kw k hne
  · cases hk : e.kwarg with
    | none => have := hnk hk hh; rw [hvu, hv] at this; cases this
    | some k => exact Or.inr ⟨x, hv, he, by rw [hread kw k hk]; rfl⟩

theorem kw_fold {P : Program} (hsol : SolutionOne P val) {s : St} (hd : SData P val s) : ∀ (es : List Edge) (kw0 : Kwargs),
    (∀ e ∈ es, SrcReady P s e.u ∧ (e.kwarg = none → HasHeads P → (val e.u).isSome = true)) →
    (es.foldl (kwStep P s) (.ok kw0) = .ok (es.foldl (semStep val) kw0) ∧ ∀ e ∈ es, (val e.u).isSome = true) ∨
    (∃ x, es.foldl (kwStep P s) (.ok kw0) = .err x ∧ ErrCause P val x ∧ ∃ e ∈ es, val e.u = none)
  | [], _, _ => Or.inl ⟨rfl, fun _ h => nomatch h⟩
  | e :: es, kw0, hm => by
    simp only [List.foldl_cons]
    obtain ⟨hsrc, hnk⟩ := hm e (List.mem_cons_self ..)
    rcases kwStep_sem hsol hd hsrc hnk kw0 with ⟨hv, hstep⟩ | ⟨x, hv, he, hstep⟩ <;> rw [hstep]
    · rcases kw_fold hsol hd es _ (fun e' he' => hm e' (List.mem_cons_of_mem _ he')) with
        ⟨h1, h2⟩ | ⟨x, h1, h2, e', he', h3⟩
      · exact Or.inl ⟨h1, List.forall_mem_cons.mpr ⟨hv, h2⟩⟩
      · exact Or.inr ⟨x, h1, h2, e', List.mem_cons_of_mem _ he', h3⟩
    · rw [fold_err]
      exact Or.inr ⟨x, rfl, he, e, List.mem_cons_self .., hv⟩

/-- with all inputs available, either every source has a value and the engine's keyword arguments are the declared ones,
or some source has none and the lookup fails with a stored exception -/
theorem nodeKwargs_cases {P : Program} (hsw : OneP P) (hsol : SolutionOne P val) {s : St} (hd : SData P val s) (n : Node)
    (hns : Ord P n) (hin : InputsReady P s n) :
    (nodeKwargs P s n = .ok (kwFrom P val n) ∧ (P.g.preds n).all (fun p => (val p).isSome) = true) ∨
    (∃ x, nodeKwargs P s n = .err x ∧ ErrCause P val x ∧ (P.g.preds n).all (fun p => (val p).isSome) = false) := by
  have hall : (P.g.preds n).all (fun p => (val p).isSome) =
      (P.g.edges.filter (fun e => e.v == n)).all (fun e => (val e.u).isSome) := by
    simp only [Graph.preds, List.all_map]; rfl
  rw [hall]
  by_cases hni : n = P.g.input
  · -- the input node has no sources
    subst hni
    have hnil : P.g.edges.filter (fun e => e.v == P.g.input) = [] :=
      List.filter_eq_nil_iff.mpr fun e he hv => hsw.inRoot e he (beq_iff_eq.mp hv)
    exact Or.inl ⟨by simp [nodeKwargs, kwBase, kwFrom, hd.addl], by rw [hnil]; rfl⟩
  · have hne : (n == P.g.input) = false := beq_eq_false_iff_ne.mpr hni
    have hedges : ∀ e ∈ P.g.edges.filter (fun e => e.v == n),
        SrcReady P s e.u ∧ (e.kwarg = none → HasHeads P → (val e.u).isSome = true) := by
      intro e he
      simp only [List.mem_filter, beq_iff_eq] at he
      -- an edge without a parameter comes from the input node, which has a value
      exact ⟨hin e he.1 he.2, fun hk hh => hsw.kwEdges e he.1 (he.2 ▸ hns) hk ▸ hsol.input hh⟩
    simp only [nodeKwargs, kwBase, kwFrom, hne, Bool.false_eq_true, if_false, hd.addl]
    rcases kw_fold hsol hd _ [] hedges with ⟨h1, h2⟩ | ⟨x, h1, h2, e, he, h3⟩ <;> rw [h1]
    · exact Or.inl ⟨rfl, List.all_eq_true.mpr h2⟩
    · exact Or.inr ⟨x, rfl, h2, List.all_eq_false.mpr ⟨e, he, by rw [h3]; simp⟩⟩

theorem safe_nodeBegin (x : Sec val c below s obs) {d : DagRef} {n : Node} (hN : NodeOK val c s d n) {inv : Nat}
    (hin : InputsReady c.P s n) (hinv : inv = 0) : Good c.P val (nodeBegin c s obs d n false below inv) := by
  rcases nodeKwargs_cases x.sw x.sol x.inv.data n hN.ord hin with ⟨hkw, hpr⟩ | ⟨e, hkw, he, hpr⟩
  · simp only [nodeBegin, hkw]
    exact safe_nodeAttempt x hN ⟨rfl, hpr, hinv, Nat.le_refl 1, Retry.attemptsEff_pos _, fun j h1 h2 => by omega⟩
  · -- a dependency failed inside a one-of scope: the node fails with that error
    simp only [nodeBegin, hkw]
    have hvn := x.sol.none_of_pred hN.ord hpr
    exact safe_nodeFail x hN he hvn

theorem safe_nodeStart {d : DagRef} {n : Node} (x : Sec val c (.node d n false .start :: below) s obs)
    (hci : CoreInv s.core) : Good c.P val (nodeStart c s obs d n false below) := by
  obtain ⟨-, hN, -⟩ := x.top.node
  unfold nodeStart
  split
  · split
    · exact safe_nodePost_wait x.pop d n
    · exact Sec.block (x.pop.push (hN.frame trivial))
  · next hpe =>
    have hinv0 : s.invCount n = 0 :=
      Nat.le_zero.mp (x.inv.data.hides n ▸ hci.unprocessed (by simpa using hpe))
    have x1 := (x.markProcessed hN.dem).emit (o := .nstart n) trivial
    obtain ⟨-, hN1, hin1⟩ := x1.top.node
    exact x1.pop.cbCall (fun _ => hN1.frame ⟨hin1, hinv0⟩) (safe_nodeBegin x1.pop hN1 hin1 hinv0)
      (fun _ he => safe_nodeCbRaise x1.pop d n (.collab he))

end MLPE.Eng
