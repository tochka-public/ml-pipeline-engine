import MLPE.Proofs.Live
import MLPE.Proofs.WakeUp

/-!
# How a section re-establishes the liveness invariant (`Struct`)

A section of task `t` first changes the rest of the state (`Ext t s s1`) and then installs its own entry
(`s1.setTask t tk'`).  A task of that state is the new entry, an old task or a fresh one (`Ext.closed_cases`), and
`Struct.close_ext` re-establishes the invariant from the description of each; what is witnessed by a task (`Executor`,
`SwOwner`, `Launched`) survives whatever reschedules the tasks (`Keeps`).
The storage part is local (`LData.grow`): a section owes the clauses of the nodes it touched.  Two instances do the work:
`Struct.close_same` (here) for the sections that store nothing (the launch loops, `_run_switch` returning or failing, a node
task that starts waiting for its node's event, the re-check of `manager.run`), and `struct_node_close` (`LiveNode.lean`) for
the sections of the task that executes a node, which touch the stored data of that node only; the one section that records a
decision (`struct_setSw`, `LiveDag.lean`) uses `Struct.close_ext` itself.

The sections themselves, by coroutine: `LiveDag.lean` (`_run_dag`, `_run_switch`), `LiveNode.lean` (`_run_node`), and
`LiveRun.lean` (the caller's sections, the environment's steps, the dispatch).  The section lemmas take
`(c : Ctx) (hcP : c.P = P)` and not a context over `P` itself, because `step` builds the `Ctx` it hands to `stepTask` from
`P`, the task and the oracles.
-/
namespace MLPE.Eng
open MLPE

variable {P : Program} {depth : Node → Nat}

/-! ### growth of the state while one task runs a section -/

/-- how a wait may end by somebody else's notification -/
def Woke (s' : St) : Wait → Prop
  | .event q => s'.evSet q = true
  | .cond _ => True
  | _ => False

structure TaskExt (s' : St) (tk tk' : Task) : Prop where
  frames : tk'.frames = tk.frames
  name   : tk'.name = tk.name
  cancel : tk'.mustCancel = tk.mustCancel
  st     : tk'.st = tk.st ∨ ∃ w, tk.st = .blocked w ∧ tk'.st = .runnable .go ∧ Woke s' w

/-- what a section of task `t` may do to the rest of the state before it installs its own new frames: the other tasks
are woken at most, tasks are appended, storage only grows -/
structure Ext (t : Nat) (s s' : St) : Prop where
  old  : ∀ (i : Nat) (tk : Task), s.tasks[i]? = some tk → i ≠ t → ∃ tk', s'.tasks[i]? = some tk' ∧ TaskExt s' tk tk'
  self : s'.tasks[t]? = s.tasks[t]?
  res  : ∀ n v, s.res n = some v → s'.res n = some v
  sw   : ∀ S lc, s.sw S = some lc → s'.sw S = some lc
  proc : ∀ n, s.proc n = true → s'.proc n = true
  ev   : ∀ n, s.evSet n = true → s'.evSet n = true
  stale : s'.stale = s.stale

theorem TaskExt.refl (s' : St) (tk : Task) : TaskExt s' tk tk := ⟨rfl, rfl, rfl, Or.inl rfl⟩

theorem Ext.refl (t : Nat) (s : St) : Ext t s s :=
  ⟨fun _ tk h _ => ⟨tk, h, TaskExt.refl s tk⟩, rfl, fun _ _ h => h, fun _ _ h => h, fun _ h => h, fun _ h => h, rfl⟩

theorem Woke.mono {s s' : St} (hev : ∀ n, s.evSet n = true → s'.evSet n = true) {w : Wait} (h : Woke s w) : Woke s' w := by
  cases w with
  | event q => exact hev q h
  | cond k => trivial
  | gate n i a o => exact h
  | sleep n i a d => exact h

theorem Ext.trans {t : Nat} {a b c : St} (h1 : Ext t a b) (h2 : Ext t b c) : Ext t a c := by
  refine ⟨?_, by rw [h2.self, h1.self], fun n v h => h2.res n v (h1.res n v h), fun S lc h => h2.sw S lc (h1.sw S lc h),
    fun n h => h2.proc n (h1.proc n h), fun n h => h2.ev n (h1.ev n h), by rw [h2.stale, h1.stale]⟩
  intro i tk hi hne
  obtain ⟨tk1, hi1, e1⟩ := h1.old i tk hi hne
  obtain ⟨tk2, hi2, e2⟩ := h2.old i tk1 hi1 hne
  refine ⟨tk2, hi2, by rw [e2.frames, e1.frames], by rw [e2.name, e1.name], by rw [e2.cancel, e1.cancel], ?_⟩
  rcases e1.st with h | ⟨w, hw, hr, hwk⟩
  · rcases e2.st with h' | ⟨w', hw', hr', hwk'⟩
    · exact Or.inl (by rw [h', h])
    · exact Or.inr ⟨w', by rw [← h]; exact hw', hr', hwk'⟩
  · rcases e2.st with h' | ⟨w', hw', _, _⟩
    · exact Or.inr ⟨w, hw, by rw [h', hr], hwk.mono h2.ev⟩
    · rw [hr] at hw'; cases hw'

theorem TaskExt.resched {s' : St} {tk tk' : Task} (e : TaskExt s' tk tk') : tk.Resched tk' :=
  ⟨e.frames, e.name, e.st.imp id (fun ⟨w, h1, h2, _⟩ => ⟨⟨w, h1⟩, _, h2⟩), fun h => e.cancel ▸ h⟩

/-- every task of `s`, except the one at `t`, is still there in `s'`, rescheduled at most; processed flags stay.
`Executor`, `SwOwner` and `Launched` are witnessed by a task and survive this, whatever produced `s'`: another task's
section (`Ext`), the stepping task installing its entry, a step of the environment. -/
structure Keeps (t : Option Nat) (s s' : St) : Prop where
  task : ∀ (i : Nat) (tk : Task), s.tasks[i]? = some tk → t ≠ some i → ∃ tk', s'.tasks[i]? = some tk' ∧ tk.Resched tk'
  proc : ∀ n, s.proc n = true → s'.proc n = true

theorem Ext.keeps {t : Nat} {s s' : St} (e : Ext t s s') : Keeps none s s' := by
  refine ⟨fun i tk hi _ => ?_, e.proc⟩
  by_cases hit : i = t
  · subst hit
    exact ⟨tk, by rw [e.self]; exact hi, .refl tk⟩
  · obtain ⟨tk', h, te⟩ := e.old i tk hi hit
    exact ⟨tk', h, te.resched⟩

section
variable {t : Option Nat} {s s' : St}

theorem Executor.keep (k : Keeps t s s') {n : Node} (h : Executor s n)
    (ht : ∀ i tkt, t = some i → s.tasks[i]? = some tkt → ∀ d f pc, tkt.frames = [.node d n f pc] → pc.exec = true → False) :
    Executor s' n := by
  obtain ⟨i, tk, hi, hl, d, f, pc, hf, hpc⟩ := h
  obtain ⟨tk', hi', r⟩ := k.task i tk hi (fun h => ht i tk h hi d f pc hf hpc)
  exact ⟨i, tk', hi', r.live hl, d, f, pc, r.frames.trans hf, hpc⟩

theorem SwOwner.keep (k : Keeps t s s') {S : Node} (h : SwOwner s S)
    (ht : ∀ i tkt, t = some i → s.tasks[i]? = some tkt → ownerOf tkt.frames = some S → SwOwner s' S) : SwOwner s' S := by
  obtain ⟨i, tk, hi, hnd, hf⟩ := h
  apply Classical.byCases (p := t = some i)
  · exact fun h => ht i tk h hi (ownerOf_eq_some.mpr hf)
  · intro hit
    obtain ⟨tk', hi', r⟩ := k.task i tk hi hit
    exact ⟨i, tk', hi', fun x hx => hnd x (r.done hx), by rw [r.frames]; exact hf⟩

/-- the excepted task owes its successor under the same name if it is a `_run_switch` task, and the processed flag if it
is the fresh task of `q` -/
theorem Launched.keep (k : Keeps t s s') {q : Node} (h : Launched P s q)
    (ht : ∀ i tkt, t = some i → s.tasks[i]? = some tkt →
      (tkt.name = .node q → ∃ tk', s'.tasks[i]? = some tk' ∧ tk'.name = .node q) ∧
      (∀ d, tkt.frames = [.node d q false .start] → s'.proc q = true)) : Launched P s' q := by
  unfold Launched at *
  split
  · next hq =>
    simp only [hq, if_true] at h
    obtain ⟨i, tk, hi, hn⟩ := h
    apply Classical.byCases (p := t = some i)
    · intro hit
      obtain ⟨tk', h1, h2⟩ := (ht i tk hit hi).1 hn
      exact ⟨i, tk', h1, h2⟩
    · intro hit
      obtain ⟨tk', hi', r⟩ := k.task i tk hi hit
      exact ⟨i, tk', hi', r.name.trans hn⟩
  · next hq =>
    simp only [hq] at h
    rcases h with h | ⟨i, tk, d, hi, hf, hst⟩
    · exact Or.inl (k.proc q h)
    · apply Classical.byCases (p := t = some i)
      · exact fun hit => Or.inl ((ht i tk hit hi).2 d hf)
      · intro hit
        obtain ⟨tk', hi', r⟩ := k.task i tk hi hit
        exact Or.inr ⟨i, tk', d, hi', r.frames.trans hf, by
          rw [r.st_eq (fun w h => by rw [hst] at h; cases h)]; exact hst⟩
end

theorem Executor.ext {t : Nat} {s s' : St} (e : Ext t s s') {n : Node} (h : Executor s n) : Executor s' n :=
  h.keep e.keeps (fun _ _ h => by cases h)

theorem SwOwner.ext {t : Nat} {s s' : St} (e : Ext t s s') {S : Node} (h : SwOwner s S) : SwOwner s' S :=
  h.keep e.keeps (fun _ _ h => by cases h)

theorem OwnerM.ext {P : Program} {t : Nat} {s s' : St} (e : Ext t s s') {m : Node} (h : OwnerM P s m) : OwnerM P s' m := by
  obtain ⟨S, hS, hs, ho⟩ := h
  exact ⟨S, hS, hs, ho.ext e⟩

theorem Launched.ext {t : Nat} {s s' : St} (e : Ext t s s') {q : Node} (h : Launched P s q) : Launched P s' q :=
  h.keep e.keeps (fun _ _ h => by cases h)

theorem DagFrame.transport {P : Program} {s s' : St} (hL : ∀ q, Launched P s q → Launched P s' q) {F : Frame} {d : DagRef}
    (h : DagFrame P s F d) : DagFrame P s' F d := by
  cases h with
  | init => exact .init d
  | launch _ m rest h1 h2 h3 => exact .launch d m rest (fun q hq hn => hL q (h1 q hq hn)) h2 h3
  | wait _ h1 => exact .wait d (fun q hq => hL q (h1 q hq))

theorem SubOK'.transport {P : Program} {depth : Node → Nat} {s s' : St} (hsw : ∀ S lc, s.sw S = some lc → s'.sw S = some lc)
    {sub : DagRef} {S : Node} (h : SubOK' P depth s sub S) : SubOK' P depth s' sub S := by
  obtain ⟨l, c, h1, h2⟩ := h.sel
  exact ⟨h.dag, l, c, hsw S _ h1, h2⟩

theorem DagFrame.ext {P : Program} {t : Nat} {s s' : St} (e : Ext t s s') {F : Frame} {d : DagRef}
    (h : DagFrame P s F d) : DagFrame P s' F d := h.transport (fun _ hq => hq.ext e)

theorem SubOK'.ext {P : Program} {depth : Node → Nat} {t : Nat} {s s' : St} (e : Ext t s s') {sub : DagRef} {S : Node}
    (h : SubOK' P depth s sub S) : SubOK' P depth s' sub S := h.transport e.sw

theorem TaskExt.st_eq {s' : St} {tk tk' : Task} (e : TaskExt s' tk tk') {st : TaskSt} (h : tk.st = st)
    (hb : ∀ w, st ≠ .blocked w) : tk'.st = st :=
  (e.resched.st_eq (fun w hw => hb w (h.symm.trans hw))).trans h

theorem TaskExt.runnable {s' : St} {tk tk' : Task} (e : TaskExt s' tk tk') (h : ∃ rv, tk.st = .runnable rv) :
    ∃ rv, tk'.st = .runnable rv := by
  obtain ⟨rv, h⟩ := h
  exact ⟨rv, e.st_eq h (fun w hw => by cases hw)⟩

theorem TaskExt.done {s' : St} {tk tk' : Task} (e : TaskExt s' tk tk') {r : TaskRes} (h : tk.st = .done r) :
    tk'.st = .done r := e.st_eq h (fun w hw => by cases hw)

theorem LaunchSt.transport {P : Program} {s s' : St} {tk tk' : Task} (te : TaskExt s' tk tk')
    {F : Frame} (h : LaunchSt P s tk F)
    (hready : ∀ d m, d.isRec = false → tk'.st = .blocked (.cond (.node m)) → ready P s' d m = true →
      (ready P s d m = true → OwnerM P s m) → OwnerM P s' m) :
    LaunchSt P s' tk' F := by
  cases F with
  | dagInit d => exact te.runnable h
  | dagLaunch d rest =>
    cases rest with
    | nil => exact h
    | cons m r =>
      obtain ⟨hrec, h⟩ := h
      refine ⟨hrec, ?_⟩
      rcases h with h | ⟨h1, h2⟩
      · exact Or.inl (te.runnable h)
      · rcases te.st with h3 | ⟨w, _, hr, _⟩
        · exact Or.inr ⟨by rw [h3]; exact h1, fun hrd => hready d m hrec (by rw [h3]; exact h1) hrd h2⟩
        · exact Or.inl ⟨_, hr⟩
  | dagWaitDest d =>
    rcases h with h | h
    · exact Or.inl (te.runnable h)
    · rcases te.st with h3 | ⟨w, _, hr, _⟩
      · exact Or.inr (by rw [h3]; exact h)
      · exact Or.inl ⟨_, hr⟩
  | _ => exact h

/-- the description of a task survives a section of another task, provided the storage only grows, the launch
bookkeeping survives, and the wake-ups are complete: `run()` is woken when its predicate turns true; a launch loop whose
node has become ready is woken or has an owner -/
theorem TaskOK.transport {P : Program} {depth : Node → Nat} {s s' : St} {tk tk' : Task} (te : TaskExt s' tk tk')
    (h : TaskOK P depth s tk)
    (hlen1 : s.tasks.length ≠ 1 ∨ (s'.tasks.length = 1 ∧ s'.proc = s.proc ∧ s'.evSet = s.evSet ∧ s'.sw = s.sw))
    (hres' : ∀ n v, s.res n = some v → s'.res n = some v) (hsw' : ∀ S lc, s.sw S = some lc → s'.sw S = some lc)
    (hproc' : ∀ n, s.proc n = true → s'.proc n = true) (hev' : ∀ n, s.evSet n = true → s'.evSet n = true)
    (hL : ∀ q, Launched P s q → Launched P s' q)
    (hrun : taskErrors s = [] → s.res P.g.output = none →
      (taskErrors s' = [] ∧ s'.res P.g.output = none) ∨ tk'.st ≠ .blocked (.cond .run))
    (hready : ∀ d m, d.isRec = false → tk'.st = .blocked (.cond (.node m)) → ready P s' d m = true →
      (ready P s d m = true → OwnerM P s m) → OwnerM P s' m)
    (hstore : ∀ d q pc, tk.frames = [.node d q false pc] → pc ≠ .start → pc ≠ .evWait → s.res q = none → s'.res q = none) :
    TaskOK P depth s' tk' := by
  cases h with
  | callerStart hn hfr hst hlen hp0 he0 hs0 =>
    rcases hlen1 with h | ⟨h1, h2, h3, h4⟩
    · exact absurd hlen h
    · exact .callerStart tk' (te.name.trans hn) (te.frames.trans hfr) (te.runnable hst) h1
        (by rw [h2]; exact hp0) (by rw [h3]; exact he0) (by rw [h4]; exact hs0)
  | callerWait hn hfr hst =>
    refine .callerWait tk' (te.name.trans hn) (te.frames.trans hfr) ?_
    rcases hst with ⟨rv, h⟩ | ⟨h, he0, hr0⟩
    · exact Or.inl (te.runnable ⟨rv, h⟩)
    · rcases te.st with h1 | ⟨w, _, hr, _⟩
      · rcases hrun he0 hr0 with ⟨h2, h3⟩ | h2
        · exact Or.inr ⟨by rw [h1]; exact h, h2, h3⟩
        · exact absurd (by rw [h1]; exact h) h2
      · exact Or.inl ⟨_, hr⟩
  | main F d0 hn hfr hdf hdag hdest hout hst =>
    exact .main tk' F d0 (te.name.trans hn) (te.frames.trans hfr) (hdf.transport hL) hdag hdest hout
      (LaunchSt.transport te hst hready)
  | mainDone hn hfr hst hres =>
    exact .mainDone tk' (te.name.trans hn) (te.frames.trans hfr) (te.done hst) (hL _ hres)
  | nodeStart d0 q hn hns hfr hst =>
    exact .nodeStart tk' d0 q (te.name.trans hn) hns (te.frames.trans hfr) (te.st_eq hst (fun w hw => by cases hw))
  | nodeWait d0 q hn hns hfr hst hproc =>
    refine .nodeWait tk' d0 q (te.name.trans hn) hns (te.frames.trans hfr) ?_ (hproc' q hproc)
    rcases hst with ⟨⟨rv, h⟩, hev⟩ | h
    · exact Or.inl ⟨te.runnable ⟨rv, h⟩, hev' q hev⟩
    · rcases te.st with h1 | ⟨w, hw, hr, hwk⟩
      · exact Or.inr (by rw [h1]; exact h)
      · rw [h] at hw; cases hw; exact Or.inl ⟨⟨_, hr⟩, hwk⟩
  | nodeExec d0 q pc hn hns hfr hpc1 hpc2 hlive hproc hnores hrests =>
    exact .nodeExec tk' d0 q pc (te.name.trans hn) hns (te.frames.trans hfr) hpc1 hpc2 (te.resched.live hlive)
      (hproc' q hproc) (hstore d0 q pc hfr hpc1 hpc2 hnores) hrests
  | nodeDone q r0 hn hns hfr hst hnc hev =>
    exact .nodeDone tk' q r0 (te.name.trans hn) hns (te.frames.trans hfr) (te.done hst) hnc (hev' q hev)
  | swStart d0 S0 hn hsS hfr hno1 hst =>
    exact .swStart tk' d0 S0 (te.name.trans hn) hsS (te.frames.trans hfr) hno1 (te.st_eq hst (fun w hw => by cases hw))
  | swIn F sub d0 S0 hn hsS hfr hdf hsub hst =>
    exact .swIn tk' F sub d0 S0 (te.name.trans hn) hsS (te.frames.trans hfr) (hdf.transport hL)
      (hsub.transport hsw') (LaunchSt.transport te hst hready)
  | swRet d0 S0 hn hsS hfr hst hsw =>
    obtain ⟨v, hv⟩ := hst
    obtain ⟨l, c, h1, h2⟩ := hsw
    exact .swRet tk' d0 S0 (te.name.trans hn) hsS (te.frames.trans hfr) ⟨v, te.st_eq hv (fun w hw => by cases hw)⟩
      ⟨l, c, hsw' _ _ h1, hL c h2⟩
  | swDone S0 r0 hn hsS hfr hst hnc hok =>
    refine .swDone tk' S0 r0 (te.name.trans hn) hsS (te.frames.trans hfr) (te.done hst) hnc ?_
    intro hr
    obtain ⟨l, c, h1, h2⟩ := hok hr
    exact ⟨l, c, hsw' _ _ h1, hL c h2⟩

/-! ### the state a section leaves behind: `s1.setTask t tk'` after `Ext t s s1` -/

section
variable {t : Nat} {s s1 : St} {tkt tk' : Task}

theorem Ext.closed_self (e : Ext t s s1) (htkt : s.tasks[t]? = some tkt) : (s1.setTask t tk').tasks[t]? = some tk' := by
  rw [getElem?_setTask (getElem?_lt (e.self.trans htkt)), if_pos rfl]

theorem Ext.closed_old (e : Ext t s s1) {i : Nat} {tk0 : Task} (hi : s.tasks[i]? = some tk0) (hit : i ≠ t) :
    ∃ tk, (s1.setTask t tk').tasks[i]? = some tk ∧ TaskExt s1 tk0 tk := by
  obtain ⟨tk1, h1, te⟩ := e.old i tk0 hi hit
  exact ⟨tk1, (getElem?_setTask_ne _ _ _ _ hit).trans h1, te⟩

theorem Ext.closed_cases (e : Ext t s s1) {i : Nat} {tk : Task} (hi : (s1.setTask t tk').tasks[i]? = some tk) :
    (i = t ∧ tk = tk') ∨ (i ≠ t ∧ ∃ tk0, s.tasks[i]? = some tk0 ∧ TaskExt s1 tk0 tk) ∨
    (s.tasks.length ≤ i ∧ s1.tasks[i]? = some tk) := by
  rcases getElem?_setTask_cases hi with h | ⟨hit, hi⟩
  · exact Or.inl h
  · by_cases hold : i < s.tasks.length
    · obtain ⟨tk1, h1, te⟩ := e.old i s.tasks[i] (List.getElem?_eq_getElem hold) hit
      rw [hi] at h1
      cases h1
      exact Or.inr (Or.inl ⟨hit, _, List.getElem?_eq_getElem hold, te⟩)
    · exact Or.inr (Or.inr ⟨Nat.le_of_not_lt hold, hi⟩)

theorem Ext.closed_name (e : Ext t s s1) (htkt : s.tasks[t]? = some tkt) (hnm : tk'.name = tkt.name) {i : Nat} {tk0 : Task}
    (hi : s.tasks[i]? = some tk0) : ∃ tk, (s1.setTask t tk').tasks[i]? = some tk ∧ tk.name = tk0.name := by
  by_cases hit : i = t
  · subst hit
    rw [htkt] at hi; cases hi
    exact ⟨tk', e.closed_self htkt, hnm⟩
  · obtain ⟨tk, h, te⟩ := e.closed_old hi hit
    exact ⟨tk, h, te.name⟩
end

theorem no_new_task {s s1 : St} (h : s1.tasks.length = s.tasks.length) {p : Nat → Task → Prop} (i : Nat) (tk : Task)
    (hi : s.tasks.length ≤ i) (h1 : s1.tasks[i]? = some tk) : p i tk :=
  absurd (getElem?_lt h1) (by omega)

theorem taskErrors_of_tasks {s s' : St} (h : s'.tasks = s.tasks) : taskErrors s' = taskErrors s := by
  unfold taskErrors; rw [h]

/-- **closing a section**.  This is the form the sections use; `Struct.close` below is the same with one more hypothesis,
which the proof does not need. -/
theorem Struct.close_ext {s s1 : St} {t : Nat} {tk' : Task} (hs : Struct P depth s)
    (htt : ∃ tkt, s.tasks[t]? = some tkt ∧ tk'.name = tkt.name) (e : Ext t s s1)
    (hdata : LData P (s1.setTask t tk'))
    (hself : TaskOK P depth (s1.setTask t tk') tk')
    (hL : ∀ q, Launched P s q → Launched P (s1.setTask t tk') q)
    (hrun : taskErrors s = [] → s.res P.g.output = none →
      (taskErrors (s1.setTask t tk') = [] ∧ s1.res P.g.output = none) ∨ NoneBlocked s1 (.cond .run))
    (hready : ∀ (i : Nat) (tki : Task) (d : DagRef) (m : Node), i ≠ t → s1.tasks[i]? = some tki → d.isRec = false →
      tki.st = .blocked (.cond (.node m)) → ready P s1 d m = true → (ready P s d m = true → OwnerM P s m) →
      OwnerM P (s1.setTask t tk') m)
    (hstore : ∀ (i : Nat) (tk : Task) (d : DagRef) (q : Node) (pc : NodePc), i ≠ t → s.tasks[i]? = some tk →
      tk.frames = [.node d q false pc] → pc ≠ .start → pc ≠ .evWait → s.res q = none → s1.res q = none)
    (hmain : t = 0 → tk'.frames = [.mgrWait] → ∃ tk1, s1.tasks[1]? = some tk1 ∧ tk1.name = .run)
    (hnew : ∀ (i : Nat) (tk : Task), s.tasks.length ≤ i → s1.tasks[i]? = some tk → TaskOK P depth (s1.setTask t tk') tk) :
    Struct P depth (s1.setTask t tk') := by
  obtain ⟨tkt, htkt, hnm⟩ := htt
  refine ⟨hdata, ?_, ?_, ?_⟩
  · intro i tk hi
    rcases e.closed_cases hi with ⟨_, rfl⟩ | ⟨hit, tk0, h0, te⟩ | ⟨hle, h1⟩
    · exact hself
    · have hi1 : s1.tasks[i]? = some tk := (getElem?_setTask_ne _ _ _ _ hit).symm.trans hi
      -- `Woke` reads the events only, which `setTask` leaves alone
      have te' : TaskExt (s1.setTask t tk') tk0 tk := ⟨te.frames, te.name, te.cancel, te.st⟩
      -- an old task besides the stepping one: `chart.run` has started
      have hlen1 : s.tasks.length ≠ 1 := by have := getElem?_lt h0; have := getElem?_lt htkt; omega
      exact TaskOK.transport te' (hs.tasks i tk0 h0) (Or.inl hlen1) e.res e.sw e.proc e.ev hL
        (fun he0 hr0 => (hrun he0 hr0).imp id (fun h => h tk (List.mem_of_getElem? hi1)))
        (fun d m hrec hb hr hold' => hready i tk d m hit hi1 hrec hb hr hold')
        (fun d q pc hf hp1 hp2 hn => hstore i tk0 d q pc hit h0 hf hp1 hp2 hn)
    · exact hnew i tk hle h1
  · obtain ⟨tk0, h0, hn0⟩ := hs.caller
    obtain ⟨tk, h, hn⟩ := e.closed_name htkt hnm h0
    exact ⟨tk, h, hn.trans hn0⟩
  · intro tk h0' hfr
    by_cases ht0 : t = 0
    · subst ht0
      rw [e.closed_self htkt] at h0'; cases h0'
      obtain ⟨tk1, h1, hn1⟩ := hmain rfl hfr
      exact ⟨tk1, (getElem?_setTask_ne _ _ _ _ (by decide)).trans h1, hn1⟩
    · obtain ⟨tk0, h0, _⟩ := hs.caller
      obtain ⟨tk0', h0'', te⟩ := e.closed_old h0 (Ne.symm ht0)
      rw [h0'] at h0''; cases h0''
      obtain ⟨tkm, hm, hnm'⟩ := hs.main tk0 h0 (by rw [← te.frames]; exact hfr)
      obtain ⟨tk1, h, hn⟩ := e.closed_name htkt hnm hm
      exact ⟨tk1, h, hn.trans hnm'⟩

theorem Struct.close {P : Program} {depth : Node → Nat} {s s1 : St} {t : Nat} {tk' : Task} (hs : Struct P depth s)
    (htt : ∃ tkt, s.tasks[t]? = some tkt ∧ tk'.name = tkt.name) (e : Ext t s s1) (hlen1 : s.tasks.length ≠ 1)
    (hdata : LData P (s1.setTask t tk'))
    (hself : TaskOK P depth (s1.setTask t tk') tk')
    (hL : ∀ q, Launched P s q → Launched P (s1.setTask t tk') q)
    (hrun : taskErrors s = [] → s.res P.g.output = none →
      (taskErrors (s1.setTask t tk') = [] ∧ s1.res P.g.output = none) ∨ NoneBlocked s1 (.cond .run))
    (hready : ∀ (i : Nat) (tki : Task) (d : DagRef) (m : Node), i ≠ t → s1.tasks[i]? = some tki → d.isRec = false →
      tki.st = .blocked (.cond (.node m)) → ready P s1 d m = true → (ready P s d m = true → OwnerM P s m) →
      OwnerM P (s1.setTask t tk') m)
    (hstore : ∀ (i : Nat) (tk : Task) (d : DagRef) (q : Node) (pc : NodePc), i ≠ t → s.tasks[i]? = some tk →
      tk.frames = [.node d q false pc] → pc ≠ .start → pc ≠ .evWait → s.res q = none → s1.res q = none)
    (hmain : t = 0 → tk'.frames = [.mgrWait] → ∃ tk1, s1.tasks[1]? = some tk1 ∧ tk1.name = .run)
    (hnew : ∀ (i : Nat) (tk : Task), s.tasks.length ≤ i → s1.tasks[i]? = some tk → TaskOK P depth (s1.setTask t tk') tk) :
    Struct P depth (s1.setTask t tk') :=
  hs.close_ext htt e hdata hself hL hrun hready hstore hmain hnew

/-! ### the primitive updates as extensions -/

theorem wakeSet_taskExt (s : St) (ks : List Key) (evs : List Node) (tk : Task) :
    TaskExt (s.woken ks evs) tk (wakeSet ks evs tk) := by
  refine ⟨wakeSet_frames .., wakeSet_name .., wakeSet_mustCancel .., ?_⟩
  rcases wakeSet_spec ks evs tk with ⟨e, _⟩ | ⟨e, ⟨k, _, hw⟩ | ⟨n, hn, hw⟩⟩ <;> rw [e]
  · exact Or.inl rfl
  · exact Or.inr ⟨_, hw, rfl, trivial⟩
  · exact Or.inr ⟨_, hw, rfl, by simp [Woke, St.woken, hn]⟩

theorem runnable_at {t : Nat} {s : St} {tkt : Task} (htkt : s.tasks[t]? = some tkt) (hrt : ∃ rv, tkt.st = .runnable rv) :
    ∀ tk0, s.tasks[t]? = some tk0 → ∃ rv, tk0.st = .runnable rv :=
  fun _ h => Option.some.inj (htkt.symm.trans h) ▸ hrt

/-- every notification primitive: the others are woken at most, the stepping task, which is runnable, is left alone -/
theorem Ext.woken {t : Nat} {s : St} (ks : List Key) (evs : List Node)
    (hrt : ∀ tkt, s.tasks[t]? = some tkt → ∃ rv, tkt.st = .runnable rv) : Ext t s (s.woken ks evs) := by
  refine ⟨?_, ?_, fun _ _ h => h, fun _ _ h => h, fun _ h => h, ?_, rfl⟩
  · intro i tk hi _
    exact ⟨wakeSet ks evs tk, by simp only [St.woken, List.getElem?_map, hi, Option.map_some], wakeSet_taskExt s ks evs tk⟩
  · simp only [St.woken, List.getElem?_map]
    cases hs : s.tasks[t]? with
    | none => rfl
    | some tkt =>
      obtain ⟨rv, hr⟩ := hrt tkt hs
      rcases wakeSet_cases ks evs tkt with h | ⟨⟨w, hw⟩, _⟩
      · rw [Option.map_some, h]
      · rw [hr] at hw; cases hw
  · intro n h
    simp only [St.woken, h, Bool.or_true]

theorem Ext.notify {t : Nat} {s : St} (k : Key) (hrt : ∀ tkt, s.tasks[t]? = some tkt → ∃ rv, tkt.st = .runnable rv) :
    Ext t s (notify s k) := by
  rw [notify_eq]; exact Ext.woken _ _ hrt

theorem nodeFinally_self {t : Nat} {s : St} {tkt : Task} (P : Program) (d : DagRef) (n : Node) (u : Bool)
    (htkt : s.tasks[t]? = some tkt) (hrt : ∃ rv, tkt.st = .runnable rv) : (nodeFinally P s d n u).tasks[t]? = some tkt := by
  rw [nodeFinally_eq, (Ext.woken _ _ (runnable_at htkt hrt)).self]; exact htkt

theorem Ext.of_data {t : Nat} {s s' : St} (ht : s'.tasks = s.tasks)
    (hres : ∀ n v, s.res n = some v → s'.res n = some v) (hsw : ∀ S lc, s.sw S = some lc → s'.sw S = some lc)
    (hproc : ∀ n, s.proc n = true → s'.proc n = true) (hev : ∀ n, s.evSet n = true → s'.evSet n = true)
    (hstale : s'.stale = s.stale := by rfl) :
    Ext t s s' :=
  ⟨fun i tk hi _ => ⟨tk, by rw [ht]; exact hi, TaskExt.refl s' tk⟩, by rw [ht], hres, hsw, hproc, hev, hstale⟩

theorem Ext.markProcessed {t : Nat} (s : St) (n : Node) : Ext t s (s.markProcessed n) :=
  Ext.of_data rfl (fun _ _ h => h) (fun _ _ h => h) (fun _ hm => upd_of_eq hm n) (fun _ h => h)

theorem Ext.setRes {t : Nat} (s : St) (n : Node) (v : Val) (hn : s.res n = none) : Ext t s (s.setRes n v) := by
  refine Ext.of_data rfl ?_ (fun _ _ h => h) (fun _ h => h) (fun _ h => h)
  intro m w hm
  simp only [St.setRes, upd]
  split
  · next he => subst he; rw [hn] at hm; cases hm
  · exact hm

theorem Ext.setSw {t : Nat} (s : St) (S : Node) (lc : Label × Node) (hold : ∀ lc', s.sw S = some lc' → lc' = lc) :
    Ext t s (s.setSw S lc) :=
  Ext.of_data rfl (fun _ _ h => h) (fun _ _ => sw_setSw hold) (fun _ h => h) (fun _ h => h)

theorem Ext.spawn {t : Nat} (s : St) (fs : List Frame) (nm : TaskName) (ht : t < s.tasks.length) :
    Ext t s (spawn s fs nm).1 := by
  refine ⟨?_, ?_, fun _ _ h => h, fun _ _ h => h, fun _ h => h, fun _ h => h, rfl⟩
  · exact fun i tk hi _ => ⟨tk, getElem?_spawn_old hi fs nm, TaskExt.refl _ tk⟩
  · simp only [Eng.spawn]
    rw [List.getElem?_append_left ht]

/-! ### what survives a section -/

section
variable {t : Nat} {s s1 : St} {tkt tk' : Task}

theorem Ext.keeps_close (e : Ext t s s1) : Keeps (some t) s (s1.setTask t tk') :=
  ⟨fun _ _ hi hit => (e.closed_old hi (fun h => hit (h ▸ rfl))).imp fun _ h => ⟨h.1, h.2.resched⟩, e.proc⟩

theorem Executor.close (e : Ext t s s1) (htkt : s.tasks[t]? = some tkt) {n : Node}
    (h : Executor s n) (hnot : ∀ d f pc, tkt.frames = [.node d n f pc] → pc.exec = true → False) :
    Executor (s1.setTask t tk') n :=
  h.keep e.keeps_close (fun i tk hi h0 => by cases hi; rw [htkt] at h0; cases h0; exact hnot)

theorem SwOwner.close (e : Ext t s s1) (htkt : s.tasks[t]? = some tkt) {S : Node} (h : SwOwner s S)
    (hnew : ownerOf tkt.frames = some S → SwOwner (s1.setTask t tk') S) : SwOwner (s1.setTask t tk') S :=
  h.keep e.keeps_close (fun i tk hi h0 => by cases hi; rw [htkt] at h0; cases h0; exact hnew)

theorem Launched.close (e : Ext t s s1) (htkt : s.tasks[t]? = some tkt) (hnm : tk'.name = tkt.name) {q : Node}
    (h : Launched P s q) (hst : ∀ d, tkt.frames = [.node d q false .start] → s1.proc q = true) :
    Launched P (s1.setTask t tk') q :=
  h.keep e.keeps_close (fun i tk hi h0 => by
    cases hi; rw [htkt] at h0; cases h0
    exact ⟨fun hn => ⟨tk', e.closed_self htkt, hnm.trans hn⟩, hst⟩)

theorem noCancel_close (e : Ext t s s1) (hs : ∀ tk ∈ s.tasks, tk.mustCancel = false) (hc : tk'.mustCancel = false)
    (hnew : ∀ (i : Nat) (tk : Task), s.tasks.length ≤ i → s1.tasks[i]? = some tk → tk.mustCancel = false) :
    ∀ tk ∈ (s1.setTask t tk').tasks, tk.mustCancel = false := by
  intro tk htk
  obtain ⟨i, hi⟩ := List.getElem?_of_mem htk
  rcases e.closed_cases hi with ⟨_, rfl⟩ | ⟨_, tk0, h0, te⟩ | ⟨hle, h1⟩
  · exact hc
  · rw [te.cancel]; exact hs tk0 (List.mem_of_getElem? h0)
  · exact hnew i tk hle h1

theorem taskErrors_close_mono (e : Ext t s s1) (htkt : s.tasks[t]? = some tkt)
    (hrt : ∃ rv, tkt.st = .runnable rv) (h : taskErrors s ≠ []) : taskErrors (s1.setTask t tk') ≠ [] := by
  obtain ⟨x, hx⟩ := List.exists_mem_of_ne_nil _ h
  obtain ⟨i, tk, hi, hst⟩ := mem_taskErrors_iff.mp hx
  have hit : i ≠ t := by
    intro h'; subst h'; rw [htkt] at hi; cases hi
    obtain ⟨rv, hr⟩ := hrt; rw [hr] at hst; cases hst
  obtain ⟨tk1, h1, te⟩ := e.closed_old hi hit
  exact List.ne_nil_of_mem (mem_taskErrors_iff.mpr ⟨i, tk1, h1, te.done hst⟩)

theorem taskErrors_close_nil (e : Ext t s s1) (h : taskErrors s = []) (hst : ∀ x, tk'.st ≠ .done (.exc x))
    (hnew : ∀ (i : Nat) (tk : Task), s.tasks.length ≤ i → s1.tasks[i]? = some tk → ∀ x, tk.st ≠ .done (.exc x)) :
    taskErrors (s1.setTask t tk') = [] := by
  apply List.eq_nil_iff_forall_not_mem.mpr
  intro x hx
  obtain ⟨i, tk, hi, hd⟩ := mem_taskErrors_iff.mp hx
  rcases e.closed_cases hi with ⟨_, rfl⟩ | ⟨_, tk0, h0, te⟩ | ⟨hle, h1⟩
  · exact hst x hd
  · have : x ∈ taskErrors s := mem_taskErrors_iff.mpr ⟨i, tk0, h0, te.resched.done hd⟩
    rw [h] at this; cases this
  · exact hnew i tk hle h1 x hd

theorem uniq_close (e : Ext t s s1) (hd : LData P s)
    (hself : ∀ d q f pc, tk'.frames = [.node d q f pc] → pc.exec = true →
      ∀ (j : Nat) (tj : Task) (d2 : DagRef) (f2 : Bool) (p2 : NodePc), j ≠ t → s.tasks[j]? = some tj →
        tj.frames = [.node d2 q f2 p2] → p2.exec = true → False)
    (hnew : ∀ (i : Nat) (tk : Task), s.tasks.length ≤ i → s1.tasks[i]? = some tk →
      ∀ d q f pc, tk.frames = [.node d q f pc] → pc.exec = false) :
    ∀ (i j : Nat) (ti tj : Task) (q : Node) (d1 d2 : DagRef) (f1 f2 : Bool) (p1 p2 : NodePc),
      (s1.setTask t tk').tasks[i]? = some ti → (s1.setTask t tk').tasks[j]? = some tj → ti.frames = [.node d1 q f1 p1] →
      tj.frames = [.node d2 q f2 p2] → p1.exec = true → p2.exec = true → i = j := by
  intro i j ti tj q d1 d2 f1 f2 p1 p2 hi hj hfi hfj hp1 hp2
  rcases e.closed_cases hi with ⟨hit, rfl⟩ | ⟨hit, ti0, hi0, tei⟩ | ⟨hle, h1⟩
  · rcases e.closed_cases hj with ⟨hjt, _⟩ | ⟨hjt, tj0, hj0, tej⟩ | ⟨hle, h1⟩
    · rw [hit, hjt]
    · exact (hself d1 q f1 p1 hfi hp1 j tj0 d2 f2 p2 hjt hj0 (by rw [← tej.frames]; exact hfj) hp2).elim
    · rw [hnew j tj hle h1 d2 q f2 p2 hfj] at hp2; cases hp2
  · rcases e.closed_cases hj with ⟨hjt, rfl⟩ | ⟨hjt, tj0, hj0, tej⟩ | ⟨hle, h1⟩
    · exact (hself d2 q f2 p2 hfj hp2 i ti0 d1 f1 p1 hit hi0 (by rw [← tei.frames]; exact hfi) hp1).elim
    · exact hd.uniq i j ti0 tj0 q d1 d2 f1 f2 p1 p2 hi0 hj0 (by rw [← tei.frames]; exact hfi)
        (by rw [← tej.frames]; exact hfj) hp1 hp2
    · rw [hnew j tj hle h1 d2 q f2 p2 hfj] at hp2; cases hp2
  · rw [hnew i ti hle h1 d1 q f1 p1 hfi] at hp1; cases hp1
end

/-! ### the caller's index, the consumers of a result, decisions, the executor of a node -/

theorem ne_caller {tk : Task} {q : Node} (h : tk.name = .node q) : tk.name ≠ .caller := by
  rw [h]; intro h'; cases h'

theorem Struct.ne_zero {s : St} (hs : Struct P depth s) {t : Nat} {tkt : Task}
    (h : s.tasks[t]? = some tkt) (hn : tkt.name ≠ .caller) : t ≠ 0 := by
  intro h0
  subst h0
  obtain ⟨tk0, h0, hn0⟩ := hs.caller
  rw [h0] at h; cases h
  exact hn hn0

/-- a consumer is in `__get_descendants` -/
theorem mem_desc1_of_basePreds (hsw : SwP P) {m u : Node} (h : u ∈ basePreds P m) : m ∈ P.g.desc1 u := by
  obtain ⟨e, he, rfl, rfl, _⟩ := mem_basePreds_edge h
  exact mem_desc1_of_edge P.g e he (List.ne_nil_of_mem hsw.inIn.1)

/-- if `m` becomes ready because node `q` got its result, the `finally` of `q` notifies `cond[m]` -/
theorem ready_flip (hsw : SwP P) {s s0 : St} (hd : LData P s) {q : Node} (hsw0 : s0.sw = s.sw)
    (hrh : s0.resHid = s.resHid) (hres : ∀ n, n ≠ q → s0.res n = s.res n) {d : DagRef} (hrec : d.isRec = false) {m : Node}
    (h0 : ready P s0 d m = true) (h1 : ready P s d m = false) : m ∈ P.g.desc1 q := by
  rw [ready_eq _ (hsw.noHead m) hrec] at h0 h1
  obtain ⟨u, hu, hno⟩ := List.all_eq_false.mp h1
  have h0u := List.all_eq_true.mp h0 u hu
  -- the decisions are the same in both states, so `u` stands for the same node, and that node is `q`
  rw [show resolveSw P s0 u = resolveSw P s u by unfold resolveSw; rw [hsw0]] at h0u
  have hpq : resolveSw P s u = q := by
    apply Classical.byContradiction
    intro hne
    simp only [St.exists, St.get, hrh, hres _ hne] at h0u
    exact hno h0u
  have direct : u = q → m ∈ P.g.desc1 q := fun h => h ▸ mem_desc1_of_basePreds hsw hu
  unfold resolveSw at hpq
  split at hpq
  · next hS =>
    split at hpq
    · next l c0 hsc =>
      -- through the switch `u`, of which `q` is the recorded case
      obtain ⟨e, he, hue, hve, _⟩ := mem_basePreds_edge hu
      obtain ⟨_, e1, he1, hu1, hv1⟩ := hd.swEdge u l c0 hsc
      have := mem_desc1_through_switch P.g e1 e he1 he (by rw [hv1, hue]) (by rw [hv1]; exact hS) (two_nodes hsw.toOneP)
      rwa [hu1, hve, hpq] at this
    · exact direct hpq
  · exact direct hpq

theorem foldl_last_get {α β : Type} (f : α → β) : ∀ (l : List α) (init : β),
    l.foldl (fun _ a => f a) init = match l.getLast? with | some a => f a | none => init
  | [], _ => rfl
  | [_], _ => rfl
  | a :: b :: l, _ => foldl_last_get f (b :: l) (f a)

theorem switchSelect_mono {s s0 : St} (hrh : s0.resHid = s.resHid)
    (hres : ∀ n, s0.res n = s.res n ∨ s.res n = none) {S : Node} {lc : Label × Node} (h : switchSelect P s S = some lc) :
    switchSelect P s0 S = some lc := by
  unfold switchSelect at *
  have hlab : switchLabel P s0 S = switchLabel P s S := by
    unfold switchLabel
    rw [foldl_last_get (fun (e : Edge) => s0.get e.u), foldl_last_get (fun (e : Edge) => s.get e.u)]
    cases hl : ((P.g.edges.filter (fun e => e.v == S)).filter (·.isSwitch)).getLast? with
    | none => rfl
    | some e =>
      simp only []
      rcases hres e.u with he | he
      · simp only [St.get, hrh, he]
      · -- the decision node had no result: the old lookup found nothing
        exfalso
        unfold switchLabel at h
        rw [foldl_last_get (fun (e : Edge) => s.get e.u), hl] at h
        have hg : s.get e.u = .none := by simp [St.get, he]
        simp only [hg] at h
        cases h
  rw [hlab]; exact h

theorem no_other_executor {s : St} (hs : Struct P depth s) {t : Nat} {tkt : Task}
    (htkt : s.tasks[t]? = some tkt) {d : DagRef} {q : Node} {pc0 : NodePc} (hf0 : tkt.frames = [.node d q false pc0])
    (h : pc0.exec = true ∨ s.procExists q = false) :
    ∀ (j : Nat) (tj : Task) (d2 : DagRef) (f2 : Bool) (p2 : NodePc), j ≠ t → s.tasks[j]? = some tj →
      tj.frames = [.node d2 q f2 p2] → p2.exec = true → False := by
  intro j tj d2 f2 p2 hjt hj hfj hp2
  rcases h with hp0 | hpe
  · exact hjt (hs.data.uniq j t tj tkt q d2 d f2 false p2 pc0 hj htkt hfj hf0 hp2 hp0)
  · have := (hs.tasks j tj hj).exec_proc hfj hp2
    simp [St.procExists, this, (hs.data.noHid q).2] at hpe

/-! ### the storage part is local -/

structure LNode (P : Program) (s : St) (n : Node) : Prop where
  noRec : ∀ v, s.res n = some v → v.isRecur = false
  c1 : s.proc n = true → s.evSet n = true ∨ Executor s n
  c4 : s.evSet n = true → (s.res n).isSome = true ∨ taskErrors s ≠ []
  c5 : (s.res n).isSome = true → s.evSet n = true
  c6 : (s.res n).isSome = true → s.proc n = true
  procPlain : s.proc n = true → P.g.isSwitch n = false

theorem LData.node {s : St} (hd : LData P s) (n : Node) : LNode P s n :=
  ⟨hd.noRec n, hd.c1 n, hd.c4 n, hd.c5 n, hd.c6 n, hd.procPlain n⟩

theorem LData.empty {s : St} (hh : ∀ n, s.resHid n = false ∧ s.procHid n = false) (hr : ∀ n, s.res n = none)
    (hp : ∀ n, s.proc n = false) (he : ∀ n, s.evSet n = false) (hs : ∀ S, s.sw S = none) (hst : s.stale = [])
    (ht : ∀ tk ∈ s.tasks, tk.mustCancel = false ∧ ∀ d q f pc, tk.frames ≠ [.node d q f pc]) : LData P s :=
  ⟨hh, fun n v h => (by rw [hr] at h; cases h), fun n h => (by rw [hp] at h; cases h), fun n h => (by rw [he] at h; cases h),
    fun n h => (by rw [hr] at h; cases h), fun S l c h => (by rw [hs] at h; cases h), fun S lc h => (by rw [hs] at h; cases h),
    fun n h => (by rw [hr] at h; cases h), fun n h => (by rw [hp] at h; cases h),
    fun i j ti tj q d1 d2 f1 f2 p1 p2 hi _ hfi => absurd hfi ((ht ti (List.mem_of_getElem? hi)).2 d1 q f1 p1),
    fun tk h => (ht tk h).1, hst⟩

section
variable {t : Nat} {s s1 : St} {tkt tk' : Task}

/-- **the storage part after a section**: the clauses about a node whose stored data the section left alone, and which
the stepping task was not executing, survive; the section owes the clauses of the nodes it touched (`new`) and of the
decisions it recorded -/
theorem LData.grow (hd : LData P s) (e : Ext t s s1) (htkt : s.tasks[t]? = some tkt) (hrt : ∃ rv, tkt.st = .runnable rv)
    (hmc : tk'.mustCancel = false) (new : Node → Prop) (hrh : s1.resHid = s.resHid) (hph : ∀ n, s1.procHid n = false)
    (hsame : ∀ n, ¬ new n → s1.res n = s.res n ∧ s1.proc n = s.proc n ∧ s1.evSet n = s.evSet n)
    (hnew : ∀ n, new n → LNode P (s1.setTask t tk') n ∧ (s1.res n = s.res n ∨ s.res n = none))
    (hexec : ∀ d n f pc, tkt.frames = [.node d n f pc] → pc.exec = true → new n)
    (hsw : ∀ S l c, s1.sw S = some (l, c) → s.sw S = some (l, c) ∨
      ((P.g.isSwitch c = false ∧ ∃ e ∈ P.g.edges, e.u = c ∧ e.v = S) ∧ switchSelect P s S = some (l, c)))
    (huniq : ∀ d q f pc, tk'.frames = [.node d q f pc] → pc.exec = true →
      ∀ (j : Nat) (tj : Task) (d2 : DagRef) (f2 : Bool) (p2 : NodePc), j ≠ t → s.tasks[j]? = some tj →
        tj.frames = [.node d2 q f2 p2] → p2.exec = true → False)
    (hfresh : ∀ (i : Nat) (tk : Task), s.tasks.length ≤ i → s1.tasks[i]? = some tk →
      tk.mustCancel = false ∧ ∀ d n f pc, tk.frames = [.node d n f pc] → pc.exec = false) :
    LData P (s1.setTask t tk') := by
  have node : ∀ n, LNode P (s1.setTask t tk') n := by
    intro n
    apply Classical.byCases (p := new n)
    · exact fun h => (hnew n h).1
    · intro hn
      obtain ⟨h1, h2, h3⟩ := hsame n hn
      have o := hd.node n
      refine ⟨fun v h => o.noRec v (h1 ▸ h), fun h => ?_, fun h => ?_, fun h => h3 ▸ o.c5 (h1 ▸ h),
        fun h => h2 ▸ o.c6 (h1 ▸ h), fun h => o.procPlain (h2 ▸ h)⟩
      · rcases o.c1 (h2 ▸ h) with h' | h'
        · exact Or.inl (h3 ▸ h')
        · exact Or.inr (h'.close e htkt (fun d f pc hf hpc => hn (hexec d n f pc hf hpc)))
      · rcases o.c4 (h3 ▸ h) with h' | h'
        · exact Or.inl (h1 ▸ h')
        · exact Or.inr (taskErrors_close_mono e htkt hrt h')
  have hres : ∀ n, s1.res n = s.res n ∨ s.res n = none := fun n =>
    Classical.byCases (p := new n) (fun h => (hnew n h).2) (fun h => Or.inl (hsame n h).1)
  refine ⟨fun n => ⟨hrh ▸ (hd.noHid n).1, hph n⟩, fun n => (node n).noRec, fun n => (node n).c1, fun n => (node n).c4,
    fun n => (node n).c5, ?_, ?_, fun n => (node n).c6, fun n => (node n).procPlain,
    uniq_close e hd huniq (fun i tk hi h => (hfresh i tk hi h).2),
    noCancel_close e hd.noCancel hmc (fun i tk hi h => (hfresh i tk hi h).1), e.stale.trans hd.stale⟩
  · intro S l c h
    rcases hsw S l c h with h' | h'
    · exact hd.swEdge S l c h'
    · exact h'.1
  · intro S lc h
    refine switchSelect_mono (s0 := s1.setTask t tk') hrh hres ?_
    rcases hsw S lc.1 lc.2 h with h' | h'
    · exact hd.swSel S lc h'
    · exact h'.2
end

/-- a task the launch loop has just created -/
def FreshTask (P : Program) (tk : Task) : Prop :=
  tk.mustCancel = false ∧ tk.st = .runnable .go ∧
  ((∃ d q, tk.frames = [.node d q false .start] ∧ tk.name = .node q ∧ P.g.isSwitch q = false) ∨
   (∃ d S, tk.frames = [.switchStart d S] ∧ tk.name = .node S ∧ P.g.isSwitch S = true ∧ d.isOneof = false))

theorem FreshTask.ok {tk : Task} (h : FreshTask P tk) (s' : St) : TaskOK P depth s' tk := by
  obtain ⟨_, hst, hfr⟩ := h
  rcases hfr with ⟨d, q, h1, h2, h3⟩ | ⟨d, S, h1, h2, h3, h4⟩
  · exact .nodeStart tk d q h2 h3 h1 hst
  · exact .swStart tk d S h2 h3 h1 h4 hst

theorem FreshTask.notExec {tk : Task} (h : FreshTask P tk) :
    ∀ d n f pc, tk.frames = [.node d n f pc] → pc.exec = false := by
  intro d n f pc hf
  obtain ⟨_, _, hfr⟩ := h
  rcases hfr with ⟨d0, q, h1, _, _⟩ | ⟨d0, S, h1, _, _⟩
  · rw [h1] at hf; simp only [List.cons.injEq, Frame.node.injEq, and_true] at hf; rw [← hf.2.2.2]; rfl
  · rw [h1] at hf; simp at hf

/-- **closing a section that changed no stored datum**, of a task that neither was nor becomes the executor of a node.
The caller's only such section is the re-check in `manager.run`; the tasks created in the section are fresh; of the owners
of switches only the stepping task itself has to be looked at. -/
theorem Struct.close_same {s s1 : St} {t : Nat} {tkt tk' : Task} (hs : Struct P depth s)
    (htkt : s.tasks[t]? = some tkt) (hnm : tk'.name = tkt.name) (hrt : ∃ rv, tkt.st = .runnable rv)
    (h0 : t = 0 → tkt.frames = [.mgrWait]) (e : Ext t s s1)
    (hres : s1.res = s.res) (hrh : s1.resHid = s.resHid) (hph : s1.procHid = s.procHid) (hsw : s1.sw = s.sw)
    (hev : s1.evSet = s.evSet) (hproc : s1.proc = s.proc) (hmc : tk'.mustCancel = false)
    (hold : ∀ d n f pc, tkt.frames = [.node d n f pc] → pc.exec = false ∧ s.proc n = true)
    (hnewf : ∀ d n f pc, tk'.frames = [.node d n f pc] → pc.exec = false)
    (hnd : (∀ x, tk'.st ≠ .done (.exc x)) ∨ NoneBlocked s1 (.cond .run))
    (hself : TaskOK P depth (s1.setTask t tk') tk')
    (hown : ∀ S, ownerOf tkt.frames = some S → SwOwner (s1.setTask t tk') S ∨
      ∀ m, S ∈ basePreds P m → (∀ d, d.isRec = false → ready P s d m = false) ∨ NoneBlocked s1 (.cond (.node m)))
    (hfresh : ∀ (i : Nat) (tk : Task), s.tasks.length ≤ i → s1.tasks[i]? = some tk → FreshTask P tk) :
    Struct P depth (s1.setTask t tk') := by
  refine Struct.close_ext hs ⟨tkt, htkt, hnm⟩ e ?_ hself ?_ ?_ ?_ ?_ ?_ (fun i tk hi h => (hfresh i tk hi h).ok _)
  · refine hs.data.grow e htkt hrt hmc (fun _ => False) hrh (fun n => hph ▸ (hs.data.noHid n).2)
      (fun n _ => ⟨by rw [hres], by rw [hproc], by rw [hev]⟩) (fun n h => h.elim) ?_ (fun S l c h => Or.inl (hsw ▸ h)) ?_
      (fun i tk hi h => ⟨(hfresh i tk hi h).1, (hfresh i tk hi h).notExec⟩)
    · intro d n f pc hf hpc
      rw [(hold d n f pc hf).1] at hpc; cases hpc
    · intro d q f pc hf hpc
      rw [hnewf d q f pc hf] at hpc; cases hpc
  · exact fun q hl => hl.close e htkt hnm (fun d hf => hproc ▸ (hold d q false .start hf).2)
  · intro he0 hr0
    rcases hnd with hnd | hnd
    · refine Or.inl ⟨taskErrors_close_nil e he0 hnd ?_, by rw [hres]; exact hr0⟩
      intro i tk hi h x hx
      rw [(hfresh i tk hi h).2.1] at hx; cases hx
    · exact Or.inr hnd
  · intro i tki d m hit hi hrec hb hrd hold'
    have hrd' : ready P s d m = true := by rw [← ready_congr hres hrh hsw]; exact hrd
    obtain ⟨S, hS, hSs, ho⟩ := hold' hrd'
    refine ⟨S, hS, hSs, ho.close e htkt (fun hf => ?_)⟩
    rcases hown S hf with h | h
    · exact h
    · rcases h m hS with h' | h'
      · rw [h' d hrec] at hrd'; cases hrd'
      · exact absurd hb (h' tki (List.mem_of_getElem? hi))
  · intro i tk d q pc hit hi hf _ _ hn
    rw [hres]; exact hn
  · intro ht0 _
    subst ht0
    obtain ⟨tk1, h1, hn1⟩ := hs.main tkt htkt (h0 rfl)
    obtain ⟨tk1', h1', te⟩ := e.old 1 tk1 h1 (by decide)
    exact ⟨tk1', h1', te.name.trans hn1⟩

end MLPE.Eng
