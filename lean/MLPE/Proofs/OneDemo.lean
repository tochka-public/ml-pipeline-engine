import MLPE.Proofs.SafeDemo

/-!
# A concrete one-of pipeline, its dataflow solution (non-vacuity of the one-of safety theorems)

`0` input · `1` first candidate, whose body raises · `2` second candidate · `3` the synthetic one-of head with candidates
`[1, 2]` (edges `0 → 3`, `1 → 3`, `2 → 3`) · `4` output, reading the one-of as `a` and node `0` as `b`.
-/
namespace MLPE.Eng
open MLPE

def demoOne : Program :=
  { g := { nodes := [0, 1, 2, 3, 4],
           edges := [{ u := 0, v := 1, kwarg := some "x" }, { u := 0, v := 2, kwarg := some "x" },
                     { u := 0, v := 3 }, { u := 1, v := 3 }, { u := 2, v := 3 },
                     { u := 3, v := 4, kwarg := some "a" }, { u := 0, v := 4, kwarg := some "b" }],
           attr := fun n => if n = 3 then { isOneofHead := true, oneofNodes := [1, 2] }
                            else if n = 1 ∨ n = 2 then { isOneofChild := true } else {},
           input := 0, output := 4 },
    cfg := fun _ => {},
    body := fun n _ _ _ => if n = 1 then .raise ⟨"E0", 1, 0, 1⟩ else .ret (.int n),
    dflt := fun _ _ => .none,
    inputKw := [] }

theorem demoOne_heads : ∀ h, demoOne.g.isOneofHead h = true → h = 3 := by
  intro h hh
  simp only [demoOne, Graph.isOneofHead] at hh
  split at hh
  · assumption
  · split at hh <;> cases hh

theorem demoOne_oneP : OneP demoOne := by
  refine oneP_of_check (by decide) (fun h hh => by rw [demoOne_heads h hh]; decide) ?_ (fun _ _ => ⟨rfl, rfl⟩)
    (fun _ => rfl)
  intro n kw i k v h
  simp only [demoOne] at h
  split at h <;> first | (cases h; exact ⟨rfl, rfl⟩) | cases h

/-- the dataflow values: candidate `1` has none, the head has the value of candidate `2` -/
def demoOneVal : Node → Option Val := fun n =>
  if n = 1 then none else if n = 3 then some (.int 2) else some (.int n)

theorem demoOneVal_solution : SolutionOne demoOne demoOneVal := by
  refine solutionOne_of_check (by decide) demoOne_oneP.headPlain fun (n : Nat) hm => ?_
  -- a number that is not a node has no sources
  have h4 : 4 < n := Nat.lt_of_not_le fun h => hm ((by decide : ∀ m ≤ 4, m ∈ demoOne.g.nodes) n h)
  obtain ⟨hp, hkw⟩ := no_sources (P := demoOne) (val := demoOneVal) (by decide) h4
    (beq_eq_false_iff_ne.mpr (show n ≠ 0 by omega))
  have hn1 : n ≠ 1 := by omega
  have hn2 : n ≠ 2 := by omega
  have hn3 : n ≠ 3 := by omega
  refine ⟨by simp [Ord, demoOne, Graph.isSwitch, Graph.isOneofHead, hn1, hn2, hn3], ?_⟩
  simp only [hp, hkw, List.all_nil, if_true]
  simp [valueOf, finalOf, Retry.run, Retry.loop, Retry.decide, demoOne, demoOneVal, hn1, hn3, NodeCfg.attemptsEff]

end MLPE.Eng
