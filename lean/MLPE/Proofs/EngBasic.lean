import MLPE.Proofs.Sections

/-! Reachable states and executions of the engine model (and how a computed run demonstrates them: `reach_of_steps`,
`fact_of_run`), and the first facts everything else uses: what leaves the `Core` (processed marks, invocation and hide
counters) alone, `refresh` as one equation, what the model accepts as a launch order, what the lookups of results return, normal forms and
case analyses of single handlers (`_run_node` after `_execute_node`, `get_default`, the selected case, the verdict of
`manager.run`, the end of `chart.run`), finished, cancel-marked and live tasks. -/
namespace MLPE.Eng
open MLPE

/-- states reachable from the initial state of a run by any sequence of enabled choices:
any interleaving of task sections, any completion order of bodies and timers, cancellation at any point -/
inductive Reach (P : Program) : St → Prop
  | init : Reach P init
  | step {s s' : St} {c : Choice} {obs : List Obs} : Reach P s → step P s c = some (s', obs) → Reach P s'

inductive Exec (P : Program) : St → List Obs → Prop
  | init : Exec P init []
  | step {s s' : St} {log obs : List Obs} {c : Choice} :
      Exec P s log → step P s c = some (s', obs) → Exec P s' (log ++ obs)

theorem Exec.reach {P : Program} {s : St} {log : List Obs} (h : Exec P s log) : Reach P s := by
  induction h with
  | init => exact .init
  | step _ hs ih => exact .step ih hs

/-! ### closed demonstrations -/

/-- `Reach` is closed under whatever runs choices one after the other and stops at the first the model refuses -/
theorem reach_of_steps {P : Program} {run : St → List Choice → Option St} (nil : ∀ s, run s [] = some s)
    (cons : ∀ s c cs, run s (c :: cs) = match step P s c with | some (s', _) => run s' cs | none => none) :
    ∀ (cs : List Choice) (s s' : St), Reach P s → run s cs = some s' → Reach P s'
  | [], s, s', h, hr => by rw [nil] at hr; cases hr; exact h
  | c :: cs, s, s', h, hr => by
    rw [cons] at hr
    split at hr
    · next s1 obs hs => exact reach_of_steps nil cons cs s1 s' (.step h hs) hr
    · cases hr

theorem exec_of_steps {P : Program} {run : St → List Obs → List Choice → Option (St × List Obs)}
    (nil : ∀ s log, run s log [] = some (s, log))
    (cons : ∀ s log c cs, run s log (c :: cs) =
      match step P s c with | some (s', obs) => run s' (log ++ obs) cs | none => none) :
    ∀ (cs : List Choice) (s : St) (log : List Obs) (r : St × List Obs), Exec P s log → run s log cs = some r → Exec P r.1 r.2
  | [], s, log, r, h, hr => by rw [nil] at hr; cases hr; exact h
  | c :: cs, s, log, r, h, hr => by
    rw [cons] at hr
    split at hr
    · next s1 obs hs => exact exec_of_steps nil cons cs s1 _ r (.step h hs) hr
    · cases hr

/-- an executable run with its log -/
def execLog (P : Program) : St → List Obs → List Choice → Option (St × List Obs)
  | s, log, [] => some (s, log)
  | s, log, c :: cs => match step P s c with
    | some (s', obs) => execLog P s' (log ++ obs) cs
    | none => none

theorem exec_of_execLog {P : Program} : ∀ (cs : List Choice) (s : St) (log : List Obs) (r : St × List Obs),
    Exec P s log → execLog P s log cs = some r → Exec P r.1 r.2 :=
  exec_of_steps (fun _ _ => rfl) (fun _ _ _ _ => rfl)

/-- what a computed run shows: `I` holds of every result of the computation `o`, and `p` collects all the decidable facts
wanted of this one, so that the run is evaluated once, whatever their number -/
theorem fact_of_run {α : Type} {I : α → Prop} {o : Option α} (hI : ∀ a, o = some a → I a) (p : α → Prop)
    [DecidablePred p] (h : o.map (fun a => decide (p a)) = some true) : ∃ a, o = some a ∧ I a ∧ p a := by
  obtain ⟨a, ha, hp⟩ := Option.map_eq_some_iff.mp h
  exact ⟨a, ha, hI a ha, of_decide_eq_true hp⟩

theorem returnedValue_iff {o : Option Outcome} :
    (∃ v, o = some (.value v)) ↔ (match o with | some (.value _) => true | _ => false) = true := by
  constructor
  · rintro ⟨v, rfl⟩; rfl
  · intro h
    split at h
    · exact ⟨_, rfl⟩
    · cases h

instance (o : Option Outcome) : Decidable (∃ v, o = some (.value v)) := decidable_of_iff' _ returnedValue_iff

/-! ### the `Core`, and what leaves it alone -/

/-- the part of the storage the at-most-once argument is about -/
structure Core where
  proc : Node → Bool
  procHid : Node → Bool
  invCount : Node → Nat
  hideCount : Node → Nat

def St.core (s : St) : Core := ⟨s.proc, s.procHid, s.invCount, s.hideCount⟩

@[simp] theorem core_setTask (s : St) (t : Nat) (tk : Task) : (s.setTask t tk).core = s.core := rfl
@[simp] theorem core_notify (s : St) (k : Key) : (notify s k).core = s.core := rfl
@[simp] theorem core_setEvent (s : St) (n : Node) : (setEvent s n).core = s.core := rfl
@[simp] theorem core_setRes (s : St) (n : Node) (v : Val) : (s.setRes n v).core = s.core := rfl
@[simp] theorem core_spawn (s : St) (fs : List Frame) (nm : TaskName) : (spawn s fs nm).1.core = s.core := rfl

@[simp] theorem core_setSw (s : St) (n : Node) (lc : Label × Node) : (s.setSw n lc).core = s.core := rfl
@[simp] theorem core_setActive (s : St) (a : List (Node × Node)) : (s.setActive a).core = s.core := rfl
@[simp] theorem core_setAdditional (s : St) (n : Node) (v : Val) : (s.setAdditional n v).core = s.core := rfl
@[simp] theorem core_setOutcome (s : St) (o : Outcome) : (s.setOutcome o).core = s.core := rfl

@[simp] theorem core_woken (s : St) (ks : List Key) (evs : List Node) : (s.woken ks evs).core = s.core := rfl

@[simp] theorem core_finish (c : Ctx) (s : St) (obs : List Obs) (fs : List Frame) (st : TaskSt) :
    (finish c s obs fs st).1.core = s.core := by
  rw [finish_data]; rfl

@[simp] theorem core_block (c : Ctx) (s : St) (obs : List Obs) (fs : List Frame) (w : Wait) :
    (block c s obs fs w).1.core = s.core :=
  core_finish c s obs fs (.blocked w)

@[simp] theorem core_retTo (c : Ctx) (s : St) (obs : List Obs) (fs : List Frame) (v : Val) :
    (retTo c s obs fs v).1.core = s.core := by
  rw [retTo_finish, core_finish]

@[simp] theorem core_raiseOut (c : Ctx) (s : St) (obs : List Obs) (fs : List Frame) (r : TaskRes) :
    (raiseOut c s obs fs r).1.core = s.core := by
  obtain ⟨ks, evs, h⟩ := raiseOut_finish c s obs fs r
  rw [h, core_finish, core_woken]

@[simp] theorem core_oneofWin (c : Ctx) (s : St) (obs : List Obs) (head cand : Node) (below : List Frame) :
    (oneofWin c s obs head cand below).1.core = s.core := by
  simp only [oneofWin, core_retTo, notify_eq, notifyAll_eq, core_woken, core_setRes]

@[simp] theorem core_openCand (s : St) (o : Bool) (b : Node) : (openCand s o b).core = s.core := by
  unfold openCand; split <;> rfl

@[simp] theorem core_reduced (P : Program) (s : St) (a b : Node) (r o n : Bool) :
    (reduced P s a b r o n).1.core = s.core := by
  simp [reduced]

@[simp] theorem core_nodePost (c : Ctx) (s : St) (obs : List Obs) (d : DagRef) (n : Node) (below : List Frame)
    (v : Val) (e : Bool) : (nodePost c s obs d n below v e).1.core = s.core := by
  have hs : (storeIf (recSpawn c.P s d n v) e n v).core = s.core := by
    unfold storeIf recSpawn; split <;> split <;> rfl
  unfold nodePost cbCall cbThen nodeCbRaise nodeFinish
  simp only []
  repeat' split
  all_goals simp only [core_retTo, core_raiseOut, nodeFinally_eq, core_woken, yieldNow_finish, core_finish, hs]

/-! ### `noteOrder` and `refresh` -/

theorem noteOrder_fields (s : St) (ok : Bool) :
    (s.noteOrder ok).res = s.res ∧ (s.noteOrder ok).resHid = s.resHid ∧ (s.noteOrder ok).proc = s.proc ∧
    (s.noteOrder ok).procHid = s.procHid ∧ (s.noteOrder ok).active = s.active ∧ (s.noteOrder ok).sw = s.sw ∧
    (s.noteOrder ok).evSet = s.evSet ∧ (s.noteOrder ok).opened = s.opened ∧ (s.noteOrder ok).additional = s.additional ∧
    (s.noteOrder ok).invCount = s.invCount ∧ (s.noteOrder ok).hideCount = s.hideCount ∧
    (s.noteOrder ok).tasks = s.tasks ∧ (s.noteOrder ok).outcome = s.outcome := by
  unfold St.noteOrder; split <;> exact ⟨rfl, rfl, rfl, rfl, rfl, rfl, rfl, rfl, rfl, rfl, rfl, rfl, rfl⟩

@[simp] theorem noteOrder_true (s : St) : s.noteOrder true = s := rfl

theorem refresh_eq (s : St) (ns : List Node) :
    s.refresh ns = { s.hide (ns.filter s.stale.contains) with
                     stale := s.stale.filter fun x => !(ns.filter s.stale.contains).contains x } := by
  unfold St.refresh
  split
  · cases s
    simp_all [St.hide]
  · rfl

theorem refresh_of_nil {s : St} (h : s.stale = []) (ns : List Node) : s.refresh ns = s := by
  simp [St.refresh, h]

theorem sw_setSw {s : St} {S : Node} {lc : Label × Node} (hold : ∀ lc', s.sw S = some lc' → lc' = lc) {T : Node}
    {lc' : Label × Node} (hT : s.sw T = some lc') : (s.setSw S lc).sw T = some lc' := by
  simp only [St.setSw, upd]
  split
  · next he => subst he; rw [hold lc' hT]
  · exact hT

/-! ### launch orders -/

theorem validOrder_spec {P : Program} {s : St} {d : DagRef} {ord : List Node} (h : validOrder P s d ord = true) :
    ord.Nodup ∧ (∀ n, n ∈ ord ↔ n ∈ expectedOrder P s d) ∧
    ∀ e ∈ P.g.edges, e.u ∈ ord → e.v ∈ ord → e.case = none → (P.g.attr e.v).oneofNodes.contains e.u = false →
      posOf ord e.u < posOf ord e.v := by
  unfold validOrder at h
  simp only [Bool.and_eq_true, List.all_eq_true, decide_eq_true_eq, List.contains_iff_mem] at h
  obtain ⟨⟨⟨⟨_, h1⟩, h2⟩, h3⟩, h4⟩ := h
  refine ⟨h3, fun n => ⟨h1 n, h2 n⟩, fun e he hu hv hc hn => ?_⟩
  simpa [hu, hv, hc, show e.u ∉ (P.g.attr e.v).oneofNodes by simpa using hn] using h4 e he

theorem validOrder_sub {P : Program} {s : St} {d : DagRef} {ord : List Node} (h : validOrder P s d ord = true) :
    ∀ n ∈ ord, n ∈ d.nodes :=
  fun n hn => (List.mem_filter.mp (((validOrder_spec h).2.1 n).mp hn)).1

theorem posOf_append_self (L R : List Node) (m : Node) (h : m ∉ L) : posOf (L ++ m :: R) m = L.length := by
  have hL : L.findIdx (· == m) = L.length :=
    List.findIdx_eq_length_of_false fun x hx => beq_eq_false_iff_ne.mpr fun e => h (e ▸ hx)
  unfold posOf
  rw [List.findIdx_append, hL, if_neg (Nat.lt_irrefl _), List.findIdx_cons, beq_self_eq_true, cond_true, Nat.zero_add]

theorem posOf_lt_mem (L R : List Node) (p : Node) (h : posOf (L ++ R) p < L.length) : p ∈ L := by
  unfold posOf at h
  rw [List.findIdx_append] at h
  split at h
  · next hlt =>
    obtain ⟨x, hx, hpx⟩ := List.findIdx_lt_length.mp hlt
    exact beq_iff_eq.mp hpx ▸ hx
  · omega

theorem not_mem_of_nodup_append_cons {L R : List Node} {m : Node} (h : (L ++ m :: R).Nodup) : m ∉ L :=
  fun hm => (List.nodup_append.mp h).2.2 m hm m (by simp) rfl

theorem mem_of_posOf_lt {L R : List Node} {m p : Node} (hnd : (L ++ m :: R).Nodup)
    (hlt : posOf (L ++ m :: R) p < posOf (L ++ m :: R) m) : p ∈ L := by
  rw [posOf_append_self L R m (not_mem_of_nodup_append_cons hnd)] at hlt
  exact posOf_lt_mem L (m :: R) p hlt

/-! ### reading results -/

theorem getHid_of_res {s : St} {n : Node} {v : Val} (hr : s.res n = some v) : s.getHid n = v := by simp [St.getHid, hr]

theorem get_visible {s : St} (hv : ∀ n, s.resHid n = false) (n : Node) : s.get n = (s.res n).getD .none := by
  simp [St.get, hv]

theorem exists_visible {s : St} (hv : ∀ n, s.resHid n = false) (n : Node) : s.exists n = (s.res n).isSome := by
  simp [St.exists, hv]

theorem isSome_res_of_exists {s : St} {n : Node} (h : s.exists n = true) : (s.res n).isSome = true :=
  (Bool.and_eq_true _ _ ▸ h).1

theorem get_notRecur {s : St} (h : ∀ n v, s.res n = some v → v.isRecur = false) (n : Node) : (s.get n).isRecur = false := by
  unfold St.get
  split
  · rfl
  · cases hr : s.res n with
    | none => rfl
    | some v => exact h n v hr

/-! ### single handlers: collaborator calls, readiness, `get_default`, the selected case, the verdict of `manager.run`, the end of `chart.run` -/

theorem cbCall_noYield (c : Ctx) (hy : ∀ cb n, c.P.cbYield cb n = 0) (cb : Cb) (n : Node) (s : St) (obs : List Obs)
    (fr : Nat → List Frame) (kOk : St → List Obs → Out) (kErr : Exc → St → List Obs → Out) :
    cbCall c cb n s obs fr kOk kErr = (match c.P.cbRaise cb n with | some e => kErr e s obs | none => kOk s obs) := by
  unfold cbCall
  cases c.P.cbRaise cb n with
  | some e => rfl
  | none => simp only [hy, cbThen]

theorem reducedRef_cases {P : Program} {s : St} {src dst : Node} {f1 f2 f3 : Bool} {d : DagRef}
    (h : reducedRef P s src dst f1 f2 f3 = some d) :
    (∃ x, P.g.vnodes (filteredView P s) = [x] ∧ d = { source := src, dest := none, nodes := [x] }) ∨
    ∃ ns, P.g.between (filteredView P s) src dst = some ns ∧ d = ⟨src, some dst, ns, f1, f2, f3⟩ := by
  unfold reducedRef at h
  dsimp only at h
  split at h
  · next x hx => cases h; exact .inl ⟨x, hx, rfl⟩
  · split at h
    · cases h
    · next ns hns => cases h; exact .inr ⟨ns, hns, rfl⟩

theorem launchFrame_of_not_head {P : Program} {n : Node} (h : P.g.isOneofHead n = false) (d : DagRef) :
    launchFrame P d n = if P.g.isSwitch n then .switchStart d n else .node d n false .start := by
  simp only [launchFrame, h, Bool.false_eq_true, if_false]

theorem ready_congr {P : Program} {s s' : St} (hres : s'.res = s.res) (hh : s'.resHid = s.resHid) (hsw : s'.sw = s.sw)
    (d : DagRef) (m : Node) : ready P s' d m = ready P s d m := by
  unfold ready predsFor St.exists St.get
  rw [hres, hh, hsw]

/-- `_run_node` after `_execute_node`, for a result that asks for no further iteration — a value: the task that executed the
node stores it and saves it; a failure kept as the result (inside a one-of scope): stored, not saved; in a task that only
waited for the node: nothing is stored, nothing is saved -/
theorem nodePost_value (c : Ctx) (s : St) (obs : List Obs) (d : DagRef) (n : Node) (below : List Frame) {v : Val}
    (hr : v.isRecur = false) (he : v.isExc = false) :
    nodePost c s obs d n below v true =
      cbCall c .save n (s.setRes n v) (obs ++ [.save n v]) (fun j => .node d n false (.cbSave j) :: below)
        (fun s obs => nodeFinish c s obs d n below) (fun e s obs => nodeCbRaise c s obs d n below e) := by
  simp [nodePost, recSpawn, recSpawns, storeIf, hr, he]

theorem nodePost_exc (c : Ctx) (s : St) (obs : List Obs) (d : DagRef) (n : Node) (below : List Frame) (e : Exc) :
    nodePost c s obs d n below (.exc e) true = nodeFinish c (s.setRes n (.exc e)) obs d n below := by
  simp [nodePost, recSpawn, recSpawns, storeIf, Val.isRecur, Val.isExc, nodeFinish]

theorem nodePost_read (c : Ctx) (s : St) (obs : List Obs) (d : DagRef) (n : Node) (below : List Frame) {v : Val}
    (hr : v.isRecur = false) : nodePost c s obs d n below v false = nodeFinish c s obs d n below := by
  simp [nodePost, recSpawn, recSpawns, storeIf, hr, nodeFinish]

theorem nodeDefault_of_none (c : Ctx) (s : St) (obs : List Obs) (d : DagRef) (n : Node) (below : List Frame)
    (kw : Kwargs) (h : c.P.dfltRaise n = none) :
    nodeDefault c s obs d n below kw = nodeSuccess c s (obs ++ [.dflt n kw]) d n below (c.P.dflt n kw) := by
  simp [nodeDefault, h]

theorem nodeDefault_of_some (c : Ctx) (s : St) (obs : List Obs) (d : DagRef) (n : Node) (below : List Frame)
    (kw : Kwargs) {e : Exc} (h : c.P.dfltRaise n = some e) (he : e.isException = true) :
    nodeDefault c s obs d n below kw = nodeFail c s (obs ++ [.dflt n kw]) d n below e := by
  simp [nodeDefault, h, he]

theorem switchSelect_some {P : Program} {s : St} {n : Node} {l : Label} {cn : Node} (h : switchSelect P s n = some (l, cn)) :
    switchLabel P s n = .str l ∧ ((switchCases P n).filter (·.1 == l)).getLast? = some (l, cn) := by
  unfold switchSelect at h
  split at h
  · next l' hl =>
    have hm := List.mem_of_getLast? h
    simp only [List.mem_filter, beq_iff_eq] at hm
    obtain rfl : l = l' := hm.2
    exact ⟨hl, h⟩
  · cases h

theorem switchError_of_not_exc {P : Program} {s : St} {n : Node} (h : (switchLabel P s n).isExc = false) :
    switchError P s n = ⟨"SwitchNoCase", n, 0, 0⟩ := by
  unfold switchError
  split
  · next x hx => rw [hx] at h; cases h
  · rfl

theorem finishOutcome_cases (c : Ctx) (s : St) :
    (∃ e ∈ taskErrors s, finishOutcome c s = if e.isException then .error e else .raised e) ∨
    (taskErrors s = [] ∧ finishOutcome c s = .value (s.getHid c.P.g.output)) := by
  unfold finishOutcome
  cases hl : taskErrors s with
  | nil => exact .inr ⟨rfl, rfl⟩
  | cons e es =>
    have hlt : c.pick % max (e :: es).length 1 < (e :: es).length := by
      rw [Nat.max_eq_left (by simp)]; exact Nat.mod_lt _ (by simp)
    rw [List.getElem?_eq_getElem hlt]
    exact .inl ⟨_, List.getElem_mem hlt, rfl⟩

theorem finishOutcome_of_check (c : Ctx) (s : St) (h : (!(taskErrors s).isEmpty || s.exists c.P.g.output) = true) :
    (∃ e ∈ taskErrors s, finishOutcome c s = if e.isException then .error e else .raised e) ∨
    (∃ v, s.res c.P.g.output = some v ∧ finishOutcome c s = .value v) := by
  refine (finishOutcome_cases c s).imp id fun ⟨hnil, ho⟩ => ?_
  -- nobody failed: `manager.run` leaves because the output has a result
  simp only [hnil, List.isEmpty_nil, Bool.not_true, Bool.false_or] at h
  obtain ⟨v, hr⟩ := Option.isSome_iff_exists.mp (isSome_res_of_exists h)
  exact ⟨v, hr, by rw [ho, getHid_of_res hr]⟩

/-- `chart.run` wraps the outcome and calls `on_pipeline_complete`: it returns (the outcome, or the collaborator's
exception), or the callback suspends -/
theorem mgrComplete_cases (c : Ctx) (s : St) (obs : List Obs) (o : Outcome) :
    (∃ obs' o', mgrComplete c s obs o = mgrReturn c s obs' o' ∧
      (o' = o ∨ ∃ e, c.P.cbRaise .pcomplete 0 = some e ∧ o' = .raised e)) ∨
    (∃ j, c.P.cbYield .pcomplete 0 = j + 1 ∧
      mgrComplete c s obs o = yieldNow c s (obs ++ [.pcomplete o]) [.mgrCbComplete j o]) := by
  unfold mgrComplete
  split
  · exact .inl ⟨_, _, rfl, .inl rfl⟩
  · unfold cbCall
    cases hr : c.P.cbRaise .pcomplete 0 with
    | some e => exact .inl ⟨_, _, rfl, .inr ⟨e, rfl, rfl⟩⟩
    | none =>
      cases hy : c.P.cbYield .pcomplete 0 with
      | zero => exact .inl ⟨_, _, rfl, .inl rfl⟩
      | succ j => exact .inr ⟨j, rfl, rfl⟩

theorem mgrComplete_tasks (c : Ctx) (s : St) (obs : List Obs) (o : Outcome) :
    ∃ obs' fs st, (mgrComplete c s obs o).1.tasks = (finish c s obs' fs st).1.tasks := by
  rcases mgrComplete_cases c s obs o with ⟨obs', o', h, -⟩ | ⟨j, -, h⟩ <;> rw [h]
  · exact ⟨obs' ++ [.returned o'], [], .done .ok, rfl⟩
  · exact ⟨_, _, .runnable .go, rfl⟩

theorem others_mgrComplete (c : Ctx) (s : St) (obs : List Obs) (o : Outcome) (i : Nat) (h : i ≠ c.t) :
    (mgrComplete c s obs o).1.tasks[i]? = s.tasks[i]? := by
  obtain ⟨obs', fs, st, e⟩ := mgrComplete_tasks c s obs o
  rw [e]; exact finish_others c s obs' fs st h

theorem mgrCheck_cases (c : Ctx) (s : St) (obs : List Obs) :
    ((!(taskErrors s).isEmpty || s.exists c.P.g.output) = true ∧ mgrCheck c s obs = mgrFinish c s obs) ∨
    (taskErrors s = [] ∧ s.exists c.P.g.output = false ∧ mgrCheck c s obs = block c s obs [.mgrWait] (.cond .run)) := by
  unfold mgrCheck
  split
  · next h => exact .inl ⟨h, rfl⟩
  · next h =>
    simp only [Bool.or_eq_true, Bool.not_eq_true', List.isEmpty_eq_false_iff, ne_eq, not_or, Decidable.not_not,
      Bool.not_eq_true] at h
    exact .inr ⟨h.1, h.2, rfl⟩

/-! ### finished, cancel-marked and live tasks -/

def Task.isDone (tk : Task) : Bool := match tk.st with | .done _ => true | _ => false

/-- the task needs no further attention from `run()`'s cleanup: finished, or cancellation requested -/
def Task.marked (tk : Task) : Bool := tk.isDone || tk.mustCancel

/-- the task can make progress by itself: it is runnable, or waits for a node body or a retry timer -/
def Task.live (tk : Task) : Prop :=
  (∃ rv, tk.st = .runnable rv) ∨ (∃ n i a o, tk.st = .blocked (.gate n i a o)) ∨ (∃ n i a d, tk.st = .blocked (.sleep n i a d))

/-- nobody can make progress: the negation of the conclusion of `Struct.live` -/
def Still (s : St) : Prop := ∀ (i : Nat) (tk : Task), s.tasks[i]? = some tk → ¬ tk.live

theorem not_stuck_of_live {s : St} {i : Nat} {tk : Task} (h : s.tasks[i]? = some tk) (hl : tk.live) : stuck s = false := by
  have hm : tk ∈ s.tasks := List.mem_of_getElem? h
  unfold stuck
  rcases hl with ⟨rv, h1⟩ | h1
  · have : s.tasks.any isRunnable = true := List.any_eq_true.mpr ⟨tk, hm, by simp [isRunnable, h1]⟩
    simp [this]
  · have : hasExternal s = true := by
      unfold hasExternal
      refine List.any_eq_true.mpr ⟨tk, hm, ?_⟩
      rcases h1 with ⟨_, _, _, _, h⟩ | ⟨_, _, _, _, h⟩ <;> simp [h]
    simp [this]

theorem Task.Resched.isDone {tk tk' : Task} (r : tk.Resched tk') : tk'.isDone = tk.isDone := by
  unfold Task.isDone
  rcases r.st with h | ⟨⟨w, h⟩, rv, h'⟩
  · rw [h]
  · rw [h, h']

theorem Task.Resched.live {tk tk' : Task} (r : tk.Resched tk') (h : tk.live) : tk'.live := by
  rcases r.st with h1 | ⟨_, hr⟩
  · unfold Task.live at *; rw [h1]; exact h
  · exact Or.inl hr

theorem Task.Resched.marked {tk tk' : Task} (r : tk.Resched tk') (h : tk.marked = true) : tk'.marked = true := by
  simp only [Task.marked, Bool.or_eq_true, r.isDone] at h ⊢
  exact h.imp id r.cancel

theorem marked_woken (s : St) (ks : List Key) (evs : List Node) (i : Nat) :
    ((s.woken ks evs).tasks[i]?).map Task.marked = (s.tasks[i]?).map Task.marked := by
  have hw : ∀ tk, (wakeSet ks evs tk).marked = tk.marked := by
    intro tk
    rcases wakeSet_cases ks evs tk with h | ⟨⟨w, hw⟩, h⟩ <;> rw [h]
    simp [Task.marked, Task.isDone, hw]
  simp [St.woken, List.getElem?_map, Option.map_map, Function.comp_def, hw]

theorem cancelled_marked (tk : Task) : (cancelled tk).marked = true := by
  unfold cancelled
  cases hst : tk.st <;> simp [Task.marked, Task.isDone, hst]

/-- `_stop_coro_tasks(*tasks)`: every listed task ends up marked, and no mark is lost -/
theorem marked_cancelTasks (ts : List Nat) : ∀ (s : St) (i : Nat) (tk : Task), s.tasks[i]? = some tk →
    (i ∈ ts ∨ tk.marked = true) → ∃ tk', (cancelTasks s ts).tasks[i]? = some tk' ∧ tk'.marked = true := by
  induction ts with
  | nil =>
    intro s i tk h hm
    rcases hm with hm | hm
    · simp at hm
    · exact ⟨tk, h, hm⟩
  | cons t ts ih =>
    intro s i tk h hm
    obtain ⟨tk', h', rt⟩ := (Resched.cancelTask s t).fwd h
    refine ih _ i tk' h' ?_
    by_cases hit : i = t
    · subst hit
      rw [cancelTask_eq, h, getElem?_setTask (getElem?_lt h), if_pos rfl] at h'
      cases h'
      exact Or.inr (cancelled_marked tk)
    · exact hm.imp (fun hm => by simpa [hit] using hm) rt.marked

theorem mem_liveTasks (s : St) (t i : Nat) (hi : i < s.tasks.length) (hne : i ≠ t) : i ∈ liveTasks s t := by
  simp [liveTasks, hi, hne]

/-- the section of a marked task is the delivery of the cancellation; `s'` is `s` after the wake-ups of the task's `finally`s
or, in `manager.run`, the cancellation of the other tasks -/
theorem marked_section {c : Ctx} {s : St} {out : Out} (hs : stepTask c s = some out)
    (hm : ∀ tk, s.tasks[c.t]? = some tk → tk.marked = true) :
    ∃ tk s' obs, s.tasks[c.t]? = some tk ∧ Resched s s' ∧ (∀ o ∈ obs, o = .returned .cancelled) ∧
      out.1.tasks = (finish c s' obs [] (.done .cancelled)).1.tasks ∧
      out.2 = (finish c s' obs [] (.done .cancelled)).2 := by
  obtain ⟨tk, rv, htk, hst, hcase⟩ := stepTask_cases hs
  -- marked and not finished: the cancellation is pending
  have hmc := hm tk htk
  simp only [Task.marked, Task.isDone, hst, Bool.false_or] at hmc
  rcases hcase with ⟨-, rfl⟩ | ⟨hn, -⟩
  · obtain ⟨s', r, e | e⟩ := deliverCancel_cases c s tk <;> rw [e]
    · exact ⟨tk, s', [], htk, r, nofun, rfl, rfl⟩
    · exact ⟨tk, s', [.returned .cancelled], htk, r, fun o ho => List.mem_singleton.mp ho, rfl, rfl⟩
  · rw [hmc] at hn; cases hn

end MLPE.Eng
