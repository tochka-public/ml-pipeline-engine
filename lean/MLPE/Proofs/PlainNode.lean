import MLPE.Proofs.Plain
import MLPE.Proofs.KwArgs
import MLPE.Proofs.CoreInv

/-!
# Plain pipelines: every section of a node task preserves the invariant

The arguments the engine passes are the declared ones (`nodeKwargs_plain`).  `NodeMid` is the invariant opened at the stepping
node task — a mid-section state in which only the processed mark and the result of its node have been written —, moved along by
the handlers (`NodeMid.store`, `.set`) and closed by `NodeMid.close` / `.finish`; then `_run_node` handler by handler,
`pinv_step_node` (a section of a node task) and `pinv_step_gate` (the body of an attempt completes).
-/
namespace MLPE.Eng
open MLPE
variable {val : Node → Option Val}

/-! ### the arguments a node is called with -/

theorem nodeKwargs_plain {P : Program} {d : DagRef} (hp : PlainP P d) (s : St) (hq : Quiet s)
    (hres : ∀ p v, s.res p = some v → v.isRecur = false ∧ v.isExc = false) (n : Node) :
    nodeKwargs P s n = .ok (kwFrom P s.res n) := by
  -- one edge: no source is a switch node, and a stored result is never an exception object
  have hstep : ∀ (kw0 : Kwargs) (e : Edge), kwStep P s (.ok kw0) e = .ok (match e.kwarg with
      | some k => insertKw kw0 k ((s.res e.u).getD .none)
      | none => kw0) := by
    intro kw0 e
    unfold kwStep
    cases e.kwarg with
    | none => rfl
    | some k =>
      simp only [hp.noSwitch, Bool.false_eq_true, if_false, St.getHid]
      cases hr : s.res e.u with
      | none => rfl
      | some v => exact kwPut_of_not_exc kw0 k (hres _ _ hr).2
  have hb : kwBase P s n = .ok (kwFrom P s.res n) := by
    unfold kwBase kwFrom
    split
    · rfl
    · exact List.foldl_hom KwRes.ok hstep
  simp [nodeKwargs, hb, hq.addl]

theorem foldl_congr_mem {α β} (f g : β → α → β) : ∀ (l : List α) (b : β), (∀ b, ∀ x ∈ l, f b x = g b x) →
    l.foldl f b = l.foldl g b
  | [], _, _ => rfl
  | a :: l, b, h => by
    rw [List.foldl_cons, List.foldl_cons, h b a (List.mem_cons_self ..)]
    exact foldl_congr_mem f g l _ fun b x hx => h b x (List.mem_cons_of_mem _ hx)

theorem kwFrom_congr (P : Program) (v1 v2 : Node → Option Val) (n : Node) (h : ∀ p ∈ P.g.preds n, v1 p = v2 p) :
    kwFrom P v1 n = kwFrom P v2 n := by
  unfold kwFrom
  split
  · rfl
  · refine foldl_congr_mem _ _ _ _ fun kw e he => ?_
    rw [h e.u (List.mem_map_of_mem he)]

/-! ### a section of a node task -/

/-- Node task `2 + i` (of `n = L[i]`, entry `tk`) is in the middle of a section that started in `s`, where the invariant
held; `s1` is the state reached so far: only `proc n` and `res n` have been written, no task entry has changed. -/
structure NodeMid (d : DagRef) (val : Node → Option Val) (s s1 : St) (L : List Node) (i : Nat) (n : Node)
    (c : Ctx) (tk : Task) : Prop where
  inv    : PInv c.P d val s
  run    : Running c.P d val s L
  nd     : L[i]? = some n
  ct     : c.t = 2 + i
  cur    : s1.tasks[c.t]? = some tk
  name   : tk.name = .node n
  mc     : tk.mustCancel = false
  tasks1 : s1.tasks = s.tasks
  quiet1 : Quiet s1
  norec1 : ∀ p v, s1.res p = some v → v.isRecur = false ∧ v.isExc = false
  procO  : ∀ m, m ≠ n → s1.proc m = s.proc m
  procN  : s1.proc n = true
  resO   : ∀ m, m ≠ n → s1.res m = s.res m
  resN   : s.res n = none ∨ s1.res n = s.res n

section
variable {d : DagRef} {s s1 : St} {L : List Node} {i : Nat} {n : Node} {c : Ctx} {tk : Task}

theorem NodeMid.start (h : PInv c.P d val s) (hrun : Running c.P d val s L) (hi : i < L.length)
    (hct : c.t = 2 + i) (htk : s.tasks[2 + i]? = some tk) (hok : NodeTaskOK c.P d val s L[i] tk) :
    (s.proc L[i] = true → NodeMid d val s s L i L[i] c tk) ∧ NodeMid d val s (s.markProcessed L[i]) L i L[i] c tk := by
  have mk : ∀ s1, s1.tasks = s.tasks → Quiet s1 → s1.res = s.res → (∀ m, m ≠ L[i] → s1.proc m = s.proc m) →
      s1.proc L[i] = true → NodeMid d val s s1 L i L[i] c tk := fun s1 a1 a2 a3 a4 a5 =>
    ⟨h, hrun, List.getElem?_eq_getElem hi, hct, by rw [a1, hct]; exact htk, hok.name_eq.1, hok.name_eq.2, a1, a2,
     by rw [a3]; exact h.noRecRes, a4, a5, fun _ _ => by rw [a3], Or.inr (by rw [a3])⟩
  exact ⟨fun hpr => mk s rfl h.quiet rfl (fun _ _ => rfl) hpr,
    mk _ rfl (quiet_markProcessed h.quiet _) rfl (fun _ hm => upd_other _ _ _ _ hm) (upd_same ..)⟩

theorem NodeMid.mem_nodes (x : NodeMid d val s s1 L i n c tk) : n ∈ d.nodes := by
  obtain ⟨mtk, _, hmok⟩ := x.run.main
  exact hmok.mem_nodes (List.mem_of_getElem? x.nd)

/-- `set_node_result` in the middle of the section -/
theorem NodeMid.store (x : NodeMid d val s s1 L i n c tk) (hr0 : s1.res n = none) (v : Val)
    (hv : v.isRecur = false ∧ v.isExc = false) : NodeMid d val s (s1.setRes n v) L i n c tk := by
  have hs0 : s.res n = none := by
    rcases x.resN with h | h
    · exact h
    · rw [← h]; exact hr0
  refine { x with cur := x.cur, tasks1 := x.tasks1, quiet1 := ?_, norec1 := ?_, procO := x.procO, procN := x.procN,
                  resO := fun m hm => (upd_other _ _ _ _ hm).trans (x.resO m hm), resN := Or.inl hs0 }
  · exact ⟨fun m => upd_of_eq (x.quiet1.resHid m) n, x.quiet1.procHid, x.quiet1.opened, x.quiet1.sw, x.quiet1.addl,
      x.quiet1.hides, x.quiet1.pend, x.quiet1.stale⟩
  · intro p w hw
    simp only [St.setRes, upd] at hw
    split at hw
    · cases hw; exact hv
    · exact x.norec1 p w hw

/-- The section ends: after the notifications `K`, `E` the task gets the entry `⟨fr, st, false, .node n⟩`, which is what
its node's predicate asks for in `s1`.  A task that ends has sent the notifications of the `finally`: this is where
`pinv_node_step` learns that nobody who waits for the node is left asleep. -/
theorem NodeMid.close (hp : PlainP c.P d) (x : NodeMid d val s s1 L i n c tk) (K : List Key) (E : List Node)
    (fr : List Frame) (st : TaskSt) (hnew : NodeTaskOK c.P d val s1 n ⟨fr, st, false, .node n⟩)
    (hK : ∀ r, st = .done r → K = finallyKeys c.P n) :
    PInv c.P d val ((s1.woken K E).setTask c.t ⟨fr, st, false, .node n⟩) := by
  obtain ⟨hi, rfl⟩ := List.getElem?_eq_some_iff.mp x.nd
  have hmem : ∀ k ∈ finallyKeys c.P L[i], (∃ r, st = .done r) → k ∈ K := fun k hk ⟨r, hr⟩ => hK r hr ▸ hk
  have hdone : (⟨fr, st, false, .node L[i]⟩ : Task).isDone = true → ∃ r, st = .done r := by
    cases st <;> simp [Task.isDone]
  apply pinv_node_step hp x.inv L x.run.len x.run.main x.run.nodes x.run.fresh i hi K E _
  · show (s1.tasks.map _).set c.t _ = _
    rw [x.tasks1, x.ct]
  · exact x.quiet1.of_tasks _ _
  · exact x.norec1
  · exact x.procO
  · exact x.resO
  · exact x.resN
  · exact hnew.frame' rfl rfl
  · exact fun m hm hd _ => hmem _ (succ_mem_finallyKeys hp _ m hm) (hdone hd)
  · exact fun ho hd _ => hmem _ (ho ▸ self_mem_finallyKeys c.P _) (hdone hd)
  · exact fun hor => hmem _ (run_mem_finallyKeys c.P _) (hor.elim (fun h => hdone h.1) fun ⟨e, he⟩ => ⟨_, he⟩)

/-- the section ends without notifications: the task suspends, or is resumed from outside -/
theorem NodeMid.set (hp : PlainP c.P d) (x : NodeMid d val s s1 L i n c tk) (fr : List Frame) (st : TaskSt)
    (hnew : NodeTaskOK c.P d val s1 n ⟨fr, st, false, .node n⟩) (hst : ∀ r, st ≠ .done r) :
    PInv c.P d val (s1.setTask c.t ⟨fr, st, false, .node n⟩) := by
  have := x.close hp [] [] fr st hnew fun r h => absurd h (hst r)
  rwa [woken_nil] at this

theorem NodeMid.block (hp : PlainP c.P d) (x : NodeMid d val s s1 L i n c tk) (obs : List Obs) (fr : List Frame) (w : Wait)
    (hnew : NodeTaskOK c.P d val s1 n ⟨fr, .blocked w, false, .node n⟩) : PInv c.P d val (block c s1 obs fr w).1 := by
  rw [block_fst x.cur, x.mc, x.name]
  exact x.set hp fr _ hnew nofun

theorem NodeMid.yield (hp : PlainP c.P d) (x : NodeMid d val s s1 L i n c tk) (obs : List Obs) (fr : List Frame)
    (hnew : NodeTaskOK c.P d val s1 n ⟨fr, .runnable .go, false, .node n⟩) : PInv c.P d val (yieldNow c s1 obs fr).1 := by
  rw [yieldNow_fst x.cur, x.mc, x.name]
  exact x.set hp fr _ hnew nofun

/-- the task ends with `r`, behind the `finally` of `_run_node` -/
theorem NodeMid.finish (hp : PlainP c.P d) (x : NodeMid d val s s1 L i n c tk) (obs : List Obs) (r : TaskRes)
    (hnew : NodeTaskOK c.P d val s1 n ⟨[], .done r, false, .node n⟩) :
    PInv c.P d val (endTask c (nodeFinally c.P s1 d n true) obs r).1 := by
  rw [nodeFinally_eq, if_pos rfl]
  have hcur : (s1.woken (finallyKeys c.P n) [n]).tasks[c.t]? = some (wakeSet (finallyKeys c.P n) [n] tk) := by
    simp only [St.woken, List.getElem?_map, x.cur, Option.map_some]
  rw [endTask_fst hcur, wakeSet_name, x.name]
  exact x.close hp _ _ [] _ hnew fun _ _ => rfl

end

/-! ### the node's coroutine, handler by handler -/
section
variable {d : DagRef} {c : Ctx} (hp : PlainP c.P d) {s s1 : St} {L : List Node} {i : Nat} {n : Node} {tk : Task}
  (x : NodeMid d val s s1 L i n c tk)
include hp x

/-- a call into a collaborator that does not raise: the continuation runs at once, or the task is suspended in the
callback (`mk j` is the per-task predicate of the suspended state with `j` yields left) -/
theorem NodeMid.cbThen (obs : List Obs) (pc : Nat → NodePc) (m : Nat) (k : St → List Obs → Out)
    (hk : PInv c.P d val (k s1 obs).1)
    (mk : ∀ j, NodeTaskOK c.P d val s1 n ⟨[.node d n false (pc j)], .runnable .go, false, .node n⟩) :
    PInv c.P d val (cbThen c s1 obs (fun j => [.node d n false (pc j)]) m k).1 := by
  cases m with
  | zero => exact hk
  | succ j => exact x.yield hp _ _ (mk j)

theorem NodeMid.cbCall (cb : Cb) (obs : List Obs) (pc : Nat → NodePc) (kOk : St → List Obs → Out)
    (kErr : Exc → St → List Obs → Out) (hOk : PInv c.P d val (kOk s1 obs).1)
    (hErr : ∀ e, CollabFails c.P e → PInv c.P d val (kErr e s1 obs).1)
    (mk : ∀ j, NodeTaskOK c.P d val s1 n ⟨[.node d n false (pc j)], .runnable .go, false, .node n⟩) :
    PInv c.P d val (cbCall c cb n s1 obs (fun j => [.node d n false (pc j)]) kOk kErr).1 := by
  unfold Eng.cbCall
  cases hr : c.P.cbRaise cb n with
  | some e => exact hErr e ⟨cb, _, hr⟩
  | none => exact x.cbThen hp obs pc _ kOk hOk mk

/-- a collaborator raised inside the node's coroutine before any value was stored (`nodeCbRaiseInTry` is `nodeCbRaise`
with one more observation) -/
theorem node_cbraise_plain (hr0 : s1.res n = none) (obs : List Obs) (e : Exc) (hce : CollabFails c.P e) :
    PInv c.P d val (nodeCbRaise c s1 obs d n [] e).1 := by
  simp only [nodeCbRaise, raiseOut_nil]
  exact x.finish hp _ _ (.doneExc e x.procN hr0 fun _ => Or.inr hce)

/-- `_run_node` after the artifact store returned: the `finally`, the task ends -/
theorem node_finish_plain (obs : List Obs) (hrs : (s1.res n).isSome = true) (htr : Track c.P d val (val n = s1.res n)) :
    PInv c.P d val (nodeFinish c s1 obs d n []).1 := by
  simp only [nodeFinish, retTo]
  exact x.finish hp _ _ (.doneOk x.procN hrs htr)

/-- `_run_node` after `_execute_node` returned the value `v`: store, save (the store may suspend or raise), `finally` -/
theorem node_post_plain (hr0 : s1.res n = none) (obs : List Obs) (v : Val) (hv : v.isRecur = false ∧ v.isExc = false)
    (htr : Track c.P d val (val n = some v)) : PInv c.P d val (nodePost c s1 obs d n [] v).1 := by
  rw [nodePost_value _ _ _ _ _ _ hv.1 hv.2]
  have y := x.store hr0 v hv
  have hres : (s1.setRes n v).res n = some v := upd_same ..
  have htr' : Track c.P d val (val n = (s1.setRes n v).res n) := by rw [hres]; exact htr
  have hsome : ((s1.setRes n v).res n).isSome = true := by rw [hres]; rfl
  refine y.cbCall hp .save _ (fun j => .cbSave j) _ _ (node_finish_plain hp y _ hsome htr') ?_
    (fun j => .cbSave j y.procN hsome htr')
  intro e hce
  simp only [nodeCbRaise, raiseOut_nil]
  exact y.finish hp _ _ (.doneExcSaved e y.procN hsome htr' hce)

/-- a node of a plain run produced the value `v`: `on_node_complete(None)`, store, save, `finally`, task ends -/
theorem node_success_plain (hr0 : s1.res n = none) (obs : List Obs) (v : Val) (hv : v.isRecur = false ∧ v.isExc = false)
    (htr : Track c.P d val (val n = some v)) : PInv c.P d val (nodeSuccess c s1 obs d n [] v).1 :=
  x.cbCall hp .ncomplete _ (fun j => .cbOk j v) _ _ (node_post_plain hp x hr0 _ v hv htr)
    (fun e hce => node_cbraise_plain hp x hr0 _ e hce) (fun j => .cbOk j v x.procN hr0 hv htr)

/-- `_execute_node`'s `except Exception` after its `on_node_complete(error)` returned: the exception propagates -/
theorem node_failCont_plain (hr0 : s1.res n = none) (obs : List Obs) (e : Exc) (htr : Track c.P d val (NodeFails c.P val n e)) :
    PInv c.P d val (nodeFailCont c s1 obs d n [] e).1 := by
  simp only [nodeFailCont, hp.notOneof, Bool.false_eq_true, if_false, raiseOut_nil]
  exact x.finish hp _ _ (.doneExc e x.procN hr0 fun hs => Or.inl (htr hs))

/-- a node of a plain run failed for good with `e` -/
theorem node_fail_plain (hr0 : s1.res n = none) (obs : List Obs) (e : Exc) (htr : Track c.P d val (NodeFails c.P val n e)) :
    PInv c.P d val (nodeFail c s1 obs d n [] e).1 :=
  x.cbCall hp .ncomplete _ (fun j => .cbFail j e) _ _ (node_failCont_plain hp x hr0 _ e htr)
    (fun e hce => node_cbraise_plain hp x hr0 _ e hce) (fun j => .cbFail j e x.procN hr0 htr)

/-- after a retried attempt's `on_node_complete(error)`: sleep `delay` (a bare yield for 0) -/
theorem node_sleep_plain (hr0 : s1.res n = none) (obs : List Obs) (k : Nat) (kw : Kwargs) (inv : Nat)
    (hnext : Track c.P d val (Att c.P val n (k + 1) kw inv)) : PInv c.P d val (nodeSleep c s1 obs d n false [] k kw inv).1 := by
  simp only [nodeSleep]
  split
  · exact x.block hp _ _ _ (.sleeping k kw inv _ x.procN hr0 hnext)
  · exact x.yield hp _ _ (.slept k kw inv x.procN hr0 hnext)

/-- the attempt's outcome is in: what the code does next is what `Retry.decide` says of it, and `Att` turns that
verdict into the policy's result on the declared arguments -/
theorem node_afterBody_plain (hr0 : s1.res n = none) (obs : List Obs) (k : Nat) (kw : Kwargs) (inv : Nat)
    (hatt : Track c.P d val (Att c.P val n k kw inv)) :
    PInv c.P d val (nodeAfterBody c s1 obs d n false [] k kw inv (c.P.body n kw inv k)).1 := by
  have hfl : ∀ e : Exc, Retry.decide (c.P.cfg n) k (c.P.body n kw inv k) = .done (.failed e) →
      Track c.P d val (NodeFails c.P val n e) := fun e hd hsol => ⟨(hatt hsol).preds, (hatt hsol).final _ hd⟩
  cases ho : c.P.body n kw inv k with
  | ret v =>
    exact node_success_plain hp x hr0 obs v (hp.noRecur _ _ _ _ _ ho) fun hsol =>
      value_of_final (hsol.eq _ x.mem_nodes) (hatt hsol).preds (Or.inl ((hatt hsol).final _ (by rw [ho]; rfl)))
  | raise e =>
    rw [ho] at hfl
    rw [Retry.nodeAfterBody_raise]
    cases hd : Retry.decide (c.P.cfg n) k (.raise e) with
    | retry =>
      have hnext : Track c.P d val (Att c.P val n (k + 1) kw inv) := fun hsol => (hatt hsol).next (by rw [ho]; exact hd)
      exact x.cbCall hp .ncomplete _ (fun j => .cbRetry j k kw inv) _ _ (node_sleep_plain hp x hr0 _ k kw inv hnext)
        (fun e hce => node_cbraise_plain hp x hr0 _ e hce) (fun j => .cbRetry j k kw inv x.procN hr0 hnext)
    | done f =>
      cases f with
      | value v => exact absurd hd (Retry.decide_raise_ne_value _ _ _ _)
      | default =>
        show PInv c.P d val (nodeDefault c s1 _ d n [] kw).1
        rw [nodeDefault_of_none _ _ _ _ _ _ _ (hp.dfltOk _)]
        exact node_success_plain hp x hr0 _ _ (hp.noRecurD _ _) fun hsol =>
          value_of_final (hsol.eq _ x.mem_nodes) (hatt hsol).preds
            (Or.inr ⟨(hatt hsol).final _ (by rw [ho]; exact hd), by rw [(hatt hsol).kw_eq]⟩)
      | failed e' =>
        dsimp only
        split
        · exact node_fail_plain hp x hr0 _ e' (hfl e' hd)
        · simp only [raiseOut_nil]
          exact x.finish hp _ _ (.doneExc e' x.procN hr0 fun hs => Or.inl (hfl e' hd hs))

/-- one attempt: the body runs inline, or the task suspends until it completes -/
theorem node_attempt_plain (hr0 : s1.res n = none) (obs : List Obs) (k : Nat) (kw : Kwargs) (inv : Nat)
    (hatt : Track c.P d val (Att c.P val n k kw inv)) : PInv c.P d val (nodeAttempt c s1 obs d n false [] k kw inv).1 := by
  have hb := x.block hp (obs ++ [.body n inv k kw] ++ [.gate n inv k]) _ _ (.inBody k kw inv x.procN hr0 hatt)
  simp only [nodeAttempt, Bool.false_eq_true, if_false]
  split
  · exact node_afterBody_plain hp x hr0 _ k kw inv hatt
  · exact hb

/-- `_execute_node` after `on_node_start` returned: the arguments, the first attempt -/
theorem node_begin_plain (hr0 : s1.res n = none) (obs : List Obs) (inv : Nat) (hinv0 : inv = 0)
    (h3 : ∀ p ∈ c.P.g.preds n, (s.res p).isSome = true) : PInv c.P d val (nodeBegin c s1 obs d n false [] inv).1 := by
  simp only [nodeBegin]
  rw [nodeKwargs_plain hp s1 x.quiet1 x.norec1]
  refine node_attempt_plain hp x hr0 _ 1 _ _ ?_
  intro hsol
  have hall : ∀ p ∈ c.P.g.preds n, s1.res p = val p ∧ (val p).isSome = true := by
    intro p hpp
    have hp3 := h3 p hpp
    have hne : p ≠ n := by
      rintro rfl
      rcases x.resN with h | h
      · rw [h] at hp3; cases hp3
      · rw [← h, hr0] at hp3; cases hp3
    obtain ⟨v, hr⟩ := Option.isSome_iff_exists.mp hp3
    have hv := x.inv.agree hr hsol
    exact ⟨by rw [x.resO p hne, hr, hv], by rw [hv]; rfl⟩
  refine ⟨kwFrom_congr c.P _ _ _ fun p hpp => (hall p hpp).1, ?_, hinv0, Nat.le_refl 1, Retry.attemptsEff_pos _,
    fun j h1 h2 => by omega⟩
  rw [List.all_eq_true]
  exact fun p hpp => (hall p hpp).2

end

theorem pinv_step_node {d : DagRef} (c : Ctx) (hp : PlainP c.P d) {s : St} (h : PInv c.P d val s) (L : List Node)
    (hrun : Running c.P d val s L) (i : Nat) (hi : i < L.length) (hct : c.t = 2 + i) (out : Out)
    (hs : stepTask c s = some out) (hci : CoreInv s.core) : PInv c.P d val out.1 := by
  obtain ⟨tk, htk, hok⟩ := hrun.nodes i hi
  obtain ⟨mk, mk0⟩ := NodeMid.start h hrun hi hct htk hok
  unfold stepTask at hs
  rw [hct, htk] at hs
  -- the blocked and the finished states take no step; in the others `out` is what the handler of the frame returns
  cases hok <;> simp only [Bool.false_eq_true, if_false, Option.some.injEq, reduceCtorEq] at hs <;> subst hs
  case fresh h1 h2 h3 =>
    have hpe : s.procExists L[i] = false := by simp [St.procExists, h1]
    have hinv0 : s.invCount L[i] = 0 := Nat.le_zero.mp (h.quiet.hides _ ▸ hci.unprocessed hpe)
    simp only [nodeStart, hpe, Bool.false_eq_true, if_false]
    exact mk0.cbCall hp .nstart _ (fun j => .cbStart j (s.invCount L[i])) _ _ (node_begin_plain hp mk0 h2 _ _ hinv0 h3)
      (fun e hce => node_cbraise_plain hp mk0 h2 _ e hce) (fun j => .cbStart j _ mk0.procN h2 h3 hinv0)
  case bodyDone k kw inv h1 h2 h3 => exact node_afterBody_plain hp (mk h1) h2 [] k kw inv h3
  case slept k kw inv h1 h2 h3 => exact node_attempt_plain hp (mk h1) h2 [] (k + 1) kw inv h3
  case cbStart j inv h1 h2 h3 h4 =>
    exact (mk h1).cbThen hp _ (fun j => .cbStart j inv) _ _ (node_begin_plain hp (mk h1) h2 _ _ h4 h3)
      (fun j => .cbStart j _ h1 h2 h3 h4)
  case cbRetry j k kw inv h1 h2 h3 =>
    exact (mk h1).cbThen hp _ (fun j => .cbRetry j k kw inv) _ _ (node_sleep_plain hp (mk h1) h2 _ k kw inv h3)
      (fun j => .cbRetry j k kw inv h1 h2 h3)
  case cbOk j v h1 h2 h3 h4 =>
    exact (mk h1).cbThen hp _ (fun j => .cbOk j v) _ _ (node_post_plain hp (mk h1) h2 _ v h3 h4)
      (fun j => .cbOk j v h1 h2 h3 h4)
  case cbFail j e h1 h2 h3 =>
    exact (mk h1).cbThen hp _ (fun j => .cbFail j e) _ _ (node_failCont_plain hp (mk h1) h2 _ e h3)
      (fun j => .cbFail j e h1 h2 h3)
  case cbSave j h1 h2 h3 =>
    exact (mk h1).cbThen hp _ (fun j => .cbSave j) _ _ (node_finish_plain hp (mk h1) _ h2 h3)
      (fun j => .cbSave j h1 h2 h3)

/-- An external completion of a node body preserves the invariant: `gateDone` reschedules, leaves the caller and the
launcher alone, and the node task that waited for this body passes from `inBody` to `bodyDone`. -/
theorem pinv_step_gate {P : Program} {d : DagRef} {s : St} (h : PInv P d val s) (n inv att : Nat) (out : Out)
    (hs : step P s (.gate n inv att) = some out) : PInv P d val out.1 := by
  obtain rfl := step_gate hs
  have r := Resched.of_map s _ (gateDone_resched n inv att)
  have cm := Calm.resched r
  have hget : ∀ {j : Nat} {tk : Task}, s.tasks[j]? = some tk → gateDone n inv att tk = tk →
      (s.tasks.map (gateDone n inv att))[j]? = some tk := fun hj e => by
    rw [List.getElem?_map, hj, Option.map_some, e]
  obtain ⟨ctk, hc0, hcok⟩ := h.caller
  refine ⟨h.quiet.of_tasks _ _, h.noRecRes, ⟨ctk, hget hc0 (by cases hcok <;> rfl), hcok.frame r.len cm⟩, ?_⟩
  rcases h.rest with ⟨h1, h2⟩ | ⟨L, hl, ⟨mtk, hm1, hmok⟩, hnodes, hfresh⟩
  · exact Or.inl ⟨r.len.trans h1, h2⟩
  · refine Or.inr ⟨L, r.len.trans hl, ⟨mtk, hget hm1 (by cases hmok <;> rfl), hmok.frame rfl rfl cm⟩, fun j hj => ?_,
      hfresh⟩
    obtain ⟨tk, htk, hok⟩ := hnodes j hj
    refine ⟨gateDone n inv att tk, by rw [List.getElem?_map, htk]; rfl, NodeTaskOK.frame' (s := s) ?_ rfl rfl⟩
    have hok' := hok
    cases hok with
    | inBody k kw inv' h1 h2 h3 =>
      simp only [gateDone]
      split
      · exact .bodyDone k kw inv' h1 h2 h3
      · exact hok'
    | _ => exact hok'

end MLPE.Eng
