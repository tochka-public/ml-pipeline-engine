import MLPE.DriverEng

/-!
# The node behaviours the driver builds satisfy the value hypotheses of the fragment theorems

`PlainP` / `OneP` assume of a program that no body returns a `Recurrent` marker or an exception object as its *value*
(`noRecur`), and the same of `get_default` (`noRecurD`).  These are statements about all arguments, so the executable
checks (`plainCheck`, `onePB`) cannot decide them for an arbitrary `Program`.  For the programs the driver parses from a
generated spec they hold by construction of `bodyOf`: a body that is not a recurrent destination returns a provenance string,
a label, or a JSON constant (`jVal` yields `None`, a string or an integer) — never a marker, never an exception object.
-/
namespace MLPE.Eng
open MLPE Lean

abbrev PlainVal (v : Val) : Prop := v.isRecur = false ∧ v.isExc = false

theorem jVal_plain (j : Json) : PlainVal (jVal j) := by
  unfold jVal
  split <;> exact ⟨rfl, rfl⟩

def BodySpec.plainVals (b : BodySpec) : Prop :=
  (b.const.isRecur = false ∧ b.const.isExc = false) ∧ ∀ v ∈ b.seq, v.isRecur = false ∧ v.isExc = false

theorem PlainVal.getD {l : List Val} (h : ∀ v ∈ l, PlainVal v) (i : Nat) : PlainVal ((l[i]?).getD .none) := by
  cases hx : l[i]? with
  | none => exact ⟨rfl, rfl⟩
  | some v => exact h v (List.mem_of_getElem? hx)

theorem PlainVal.ite {c : Prop} [Decidable c] {a b : Val} (ha : PlainVal a) (hb : PlainVal b) :
    PlainVal (if c then a else b) := by
  split <;> assumption

/-- **`noRecur` for driver-built bodies**: a node that is not a recurrent destination never returns a marker or an
exception object as its value, whatever the arguments, invocation and attempt -/
theorem bodyOf_noRecur (cfg : NodeCfg) (b : BodySpec) (n : Node) (kw : Kwargs) (inv att : Nat) (v : Val)
    (hrec : b.isRec = false) (hv : b.plainVals) (h : bodyOf cfg b n kw inv att = .ret v) :
    v.isRecur = false ∧ v.isExc = false := by
  revert h
  unfold bodyOf
  -- past the two ways of raising, the body is `.ret` of a choice between a string, two entries of `seq` and `const`
  simp only [hrec, Bool.false_and, Bool.false_eq_true, if_false, ← apply_ite BodyOutcome.ret]
  split
  · nofun
  · split
    · nofun
    · rintro ⟨⟩
      exact PlainVal.ite ⟨rfl, rfl⟩
        (PlainVal.ite (PlainVal.getD hv.2 _) (PlainVal.ite (PlainVal.getD hv.2 _) hv.1))

theorem parseCfg_plainVals (j : Json) : (parseCfg j).2.plainVals := by
  unfold parseCfg BodySpec.plainVals
  simp only []
  refine ⟨jVal_plain _, ?_⟩
  intro v hv
  simp only [List.mem_map] at hv
  obtain ⟨x, _, rfl⟩ := hv
  exact jVal_plain x

theorem plainVals_default : (default : BodySpec).plainVals := ⟨⟨rfl, rfl⟩, fun v hv => by cases hv⟩

theorem plainVals_empty : ({} : BodySpec).plainVals := ⟨⟨rfl, rfl⟩, fun v hv => by cases hv⟩

/-- **the value hypotheses of `PlainP` / `OneP` hold of every program the driver builds** from a spec without recurrent
destinations: `noRecur`, `noRecurD` (`dfltOk`, for a spec without failing defaults, is `mkProgram_dfltOk`) -/
theorem mkProgram_values (g : Graph) (cfgs : List (NodeCfg × BodySpec)) (ik : Kwargs) (poolsOk : Bool)
    (cb : Cb → Node → Nat) (cr : Cb → Node → Option Exc)
    (hvals : ∀ c ∈ cfgs, c.2.plainVals) (hrec : noRecDest cfgs = true) :
    (∀ n kw i k v, (mkProgram g cfgs ik poolsOk cb cr).body n kw i k = .ret v → v.isRecur = false ∧ v.isExc = false) ∧
    (∀ n kw, ((mkProgram g cfgs ik poolsOk cb cr).dflt n kw).isRecur = false ∧
             ((mkProgram g cfgs ik poolsOk cb cr).dflt n kw).isExc = false) := by
  refine ⟨?_, fun n kw => ⟨rfl, rfl⟩⟩
  intro n kw i k v h
  simp only [mkProgram] at h
  cases hx : cfgs[n]? with
  | none =>
    simp only [hx, Option.map_none, Option.getD_none] at h
    exact bodyOf_noRecur _ _ n kw i k v rfl plainVals_empty h
  | some c =>
    simp only [hx, Option.map_some, Option.getD_some] at h
    have hm : c ∈ cfgs := List.mem_of_getElem? hx
    have hr : c.2.isRec = false := by
      have := (List.all_eq_true.mp hrec) c hm
      simpa using this
    exact bodyOf_noRecur _ _ n kw i k v hr (hvals c hm) h

/-- `dfltOk` for driver-built programs: no node of the spec has a failing default -/
theorem mkProgram_dfltOk (g : Graph) (cfgs : List (NodeCfg × BodySpec)) (ik : Kwargs) (poolsOk : Bool)
    (cb : Cb → Node → Nat) (cr : Cb → Node → Option Exc) (h : cfgs.all (fun c => c.2.dfltRaise.isNone) = true) :
    ∀ n, (mkProgram g cfgs ik poolsOk cb cr).dfltRaise n = none := by
  intro n
  simp only [mkProgram]
  cases hx : cfgs[n]? with
  | none => rfl
  | some c =>
    have := (List.all_eq_true.mp h) c (List.mem_of_getElem? hx)
    simp only [Option.map_some, Option.getD_some]
    cases hd : c.2.dfltRaise with
    | none => rfl
    | some x => simp [hd] at this

theorem parsed_cfgs_plainVals (js : List Json) : ∀ c ∈ js.map parseCfg, c.2.plainVals := by
  intro c hc
  obtain ⟨j, _, rfl⟩ := List.mem_map.mp hc
  exact parseCfg_plainVals j

end MLPE.Eng
