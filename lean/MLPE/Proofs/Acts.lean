import MLPE.Proofs.EngBasic

/-!
# The sections of the engine model as runs of small actions

`Eng.stepTask` runs a handler in continuation-passing style.  Seen from a task's frame stack, every handler does the same
few things: it changes the storage, wakes or cancels tasks, reports observations, spawns tasks, replaces the frame on top
of its stack, and in the end installs the stack (`finish`).  `Act` lists these actions on a configuration
`⟨s, obs, fs⟩` — the state, the observations so far, and the stack the running task would have if it suspended now —
with the side conditions the code guarantees; `Runs` is "finitely many actions, then `finish`"; `stepTask_runs` shows, by
one walk over the handlers, that every section is such a run.

An invariant of all programs is then proved by `Runs.post`: it is kept by every action and re-established by `finish`.

The description is deliberately coarser than the code: `Runs` may install the stack after any action and in any scheduling
state, waking and cancelling are only known to reschedule (`Resched`), storage updates only to be `Silent`.  That is
enough for safety invariants about frames, counters and observations (`CoreInv` of CoreInv.lean, `RX` of RecScope, the ledger,
the budget); the invariants that need to know *who* was woken or *which* value was stored (`PInv` of Plain, `SInv` of Safe,
`Struct` of Live) follow the handlers themselves.
-/
namespace MLPE.Eng
open MLPE

/-- observations no accounting of the engine's calls into bodies and collaborators looks at -/
def Obs.quiet : Obs → Bool
  | .spawn .. => true
  | .topo _ => true
  | .badOracle => true
  | .gate .. => true
  | .sleep _ => true
  | .returned _ => true
  | .ncomplete _ (some _) => true
  | _ => false

structure Silent (s s' : St) : Prop where
  tasks : s'.tasks = s.tasks
  core  : s'.core = s.core
  stale : s'.stale = s.stale
  bad   : s.badOrd = true → s'.badOrd = true

theorem Silent.refl (s : St) : Silent s s := ⟨rfl, rfl, rfl, id⟩
theorem Silent.setRes (s : St) (n : Node) (v : Val) : Silent s (s.setRes n v) := ⟨rfl, rfl, rfl, id⟩
theorem Silent.setSw (s : St) (n : Node) (lc : Label × Node) : Silent s (s.setSw n lc) := ⟨rfl, rfl, rfl, id⟩
theorem Silent.setActive (s : St) (a : List (Node × Node)) : Silent s (s.setActive a) := ⟨rfl, rfl, rfl, id⟩
theorem Silent.setAdditional (s : St) (n : Node) (v : Val) : Silent s (s.setAdditional n v) := ⟨rfl, rfl, rfl, id⟩
theorem Silent.openCand (s : St) (b : Bool) (n : Node) : Silent s (openCand s b n) := by
  unfold Eng.openCand; split
  · exact ⟨rfl, rfl, rfl, id⟩
  · exact .refl s
theorem Silent.noteOrder (s : St) (ok : Bool) : Silent s (s.noteOrder ok) := by
  unfold St.noteOrder; split
  · exact .refl s
  · exact ⟨rfl, rfl, rfl, fun _ => rfl⟩
theorem Silent.storeIf (s : St) (b : Bool) (n : Node) (v : Val) : Silent s (storeIf s b n v) := by
  unfold Eng.storeIf; split
  · exact .setRes s n v
  · exact .refl s

/-! ### frame stacks: what leaves them and the invocation counters alone -/

def stacks (s : St) : List (List Frame) := s.tasks.map (·.frames)

def SameL (s s' : St) : Prop := stacks s' = stacks s ∧ s'.invCount = s.invCount

theorem SameL.refl (s : St) : SameL s s := ⟨rfl, rfl⟩
theorem SameL.trans {a b c : St} (h1 : SameL a b) (h2 : SameL b c) : SameL a c :=
  ⟨h2.1.trans h1.1, h2.2.trans h1.2⟩

theorem stacks_setTask (s : St) (t : Nat) (tk : Task) : stacks (s.setTask t tk) = (stacks s).set t tk.frames := by
  simp [stacks, St.setTask, List.map_set]

theorem SameL.of_resched {s s' : St} (r : Resched s s') : SameL s s' := by
  refine ⟨List.ext_getElem? fun i => ?_, by rw [r.data]⟩
  simp only [stacks, List.getElem?_map]
  cases h : s'.tasks[i]? with
  | none => rw [List.getElem?_eq_none (r.len ▸ List.getElem?_eq_none_iff.mp h)]
  | some tk' => obtain ⟨tk, h0, rt⟩ := r.back h; rw [h0]; exact congrArg some rt.frames

theorem SameL.of_silent {s s' : St} (e : Silent s s') : SameL s s' :=
  ⟨by rw [stacks, e.tasks]; rfl, congrArg Core.invCount e.core⟩

theorem sameL_setOutcome (s : St) (o : Outcome) : SameL s (s.setOutcome o) := ⟨rfl, rfl⟩
theorem sameL_hide (s : St) (ns : List Node) : SameL s (s.hide ns) := ⟨rfl, rfl⟩
theorem sameL_invalidate (s : St) (ns : List Node) : SameL s (s.invalidate ns) := ⟨rfl, rfl⟩
theorem sameL_refresh (s : St) (ns : List Node) : SameL s (s.refresh ns) := by
  rw [refresh_eq]; exact ⟨rfl, rfl⟩

theorem stacks_spawn (s : St) (fr : Frame) (nm : TaskName) : stacks (spawn s [fr] nm).1 = stacks s ++ [[fr]] := by
  simp [stacks, spawn]

/-- the frame a new task starts with -/
def Frame.fresh : Frame → Bool
  | .switchStart .. => true
  | .oneofStart .. => true
  | .node _ _ false .start => true
  | .dagInit _ => true
  | .recStart .. => true
  | _ => false

/-- frames that only remember where to continue -/
def Frame.inert : Frame → Bool
  | .dagLaunch .. => true
  | .dagWaitDest _ => true
  | .switchRet .. => true
  | .oneofWait .. => true
  | _ => false

inductive NodePc.SameCb : NodePc → NodePc → Prop
  | cbStart {j j' i} : SameCb (.cbStart j i) (.cbStart j' i)
  | cbRetry {j j' k kw i} : SameCb (.cbRetry j k kw i) (.cbRetry j' k kw i)
  | cbOk {j j' v} : SameCb (.cbOk j v) (.cbOk j' v)
  | cbFail {j j' e} : SameCb (.cbFail j e) (.cbFail j' e)
  | cbSave {j j'} : SameCb (.cbSave j) (.cbSave j')

structure Conf where
  s   : St
  obs : List Obs
  fs  : List Frame

inductive Act (c : Ctx) : Conf → Conf → Prop
  | resched {s s' obs fs} : Resched s s' → Act c ⟨s, obs, fs⟩ ⟨s', obs, fs⟩
  | silent {s s' obs fs} : Silent s s' → Act c ⟨s, obs, fs⟩ ⟨s', obs, fs⟩
  | emit {s obs fs} (o : Obs) : o.quiet = true → Act c ⟨s, obs, fs⟩ ⟨s, obs ++ [o], fs⟩
  | spawn {s obs fs} (fr : Frame) (nm : TaskName) : fr.fresh = true → Act c ⟨s, obs, fs⟩ ⟨(spawn s [fr] nm).1, obs, fs⟩
  | pop {s obs f fs} : Act c ⟨s, obs, f :: fs⟩ ⟨s, obs, fs⟩
  | push {s obs fs} (f : Frame) : f.inert = true → Act c ⟨s, obs, fs⟩ ⟨s, obs, f :: fs⟩
  | refresh {s obs fs} (ns : List Node) : Act c ⟨s, obs, fs⟩ ⟨s.refresh ns, obs, fs⟩
  -- `_run_recurrent_subgraph`
  | iterFirst {s obs fs d n start g} (io : Bool) : (c.P.g.attr n).startNode = some start →
      Act c ⟨s, obs, fs⟩ ⟨s.invalidate (recScopeNodes c.P start n io), obs, .recIterRet d n start g 0 :: fs⟩
  | iterNext {s obs fs d n start g k} (io : Bool) :
      Act c ⟨s, obs, .recIterRet d n start g k :: fs⟩
        ⟨s.invalidate (recScopeNodes c.P start n io), obs, .recIterRet d n start g (k + 1) :: fs⟩
  | forcedFirst {s obs fs d n start} : (c.P.g.attr n).startNode = some start → (c.P.cfg n).useDefault = true →
      Act c ⟨s, obs, fs⟩ ⟨s.hide [n], obs, .node d n true .start :: .recDfltRet d n start :: fs⟩
  | forcedNext {s obs fs d n start g k} : (c.P.cfg n).useDefault = true →
      Act c ⟨s, obs, .recIterRet d n start g k :: fs⟩ ⟨s.hide [n], obs, .node d n true .start :: .recDfltRet d n start :: fs⟩
  -- `_run_node`: the frame on top changes its program counter.  The would-be frame is a callback's frame from the moment
  -- the observation that precedes the call is made (`cbStart` after `nstart`, `cbOk` after `ncomplete none`, …), whether or
  -- not the collaborator then suspends; `.body k kw inv` is the position "attempt `k` with arguments `kw`", also while the
  -- body runs inline
  | nodeWait {s obs fs d n force} : Act c ⟨s, obs, .node d n force .start :: fs⟩ ⟨s, obs, .node d n force .evWait :: fs⟩
  | nodeStart {s obs fs d n force} : s.procExists n = false →
      Act c ⟨s, obs, .node d n force .start :: fs⟩
        ⟨s.markProcessed n, obs ++ [.nstart n], .node d n force (.cbStart 0 (s.invCount n)) :: fs⟩
  /-- the frames of the callbacks after the last attempt (`cbOk`, `cbFail`, `cbSave`) are installed with `force := false` -/
  | nodeCb {s obs fs d n force force' pc pc'} : pc.SameCb pc' → (force' = force ∨ force' = false) →
      Act c ⟨s, obs, .node d n force pc :: fs⟩ ⟨s, obs, .node d n force' pc' :: fs⟩
  | nodeArgs {s obs fs d n force j inv kw} : nodeKwargs c.P s n = .ok kw →
      Act c ⟨s, obs, .node d n force (.cbStart j inv) :: fs⟩ ⟨s, obs, .node d n force (.body 1 kw inv) :: fs⟩
  | nodeNext {s obs fs d n force k kw inv} :
      Act c ⟨s, obs, .node d n force (.sleep k kw inv) :: fs⟩ ⟨s, obs, .node d n force (.body (k + 1) kw inv) :: fs⟩
  | nodeCall {s obs fs d n k kw inv} :
      Act c ⟨s, obs, .node d n false (.body k kw inv) :: fs⟩ ⟨s, obs ++ [.body n inv k kw], .node d n false (.body k kw inv) :: fs⟩
  | nodeRetry {s obs fs d n force k kw inv} : k ≠ (c.P.cfg n).attemptsEff →
      Act c ⟨s, obs, .node d n force (.body k kw inv) :: fs⟩ ⟨s, obs, .node d n force (.cbRetry 0 k kw inv) :: fs⟩
  | nodeSleep {s obs fs d n force j k kw inv} :
      Act c ⟨s, obs, .node d n force (.cbRetry j k kw inv) :: fs⟩ ⟨s, obs, .node d n force (.sleep k kw inv) :: fs⟩
  | nodeDflt {s obs fs d n force k kw inv} : (force = true ∨ (c.P.cfg n).useDefault = true) →
      Act c ⟨s, obs, .node d n force (.body k kw inv) :: fs⟩ ⟨s, obs ++ [.dflt n kw], .node d n force (.body k kw inv) :: fs⟩
  | nodeOk {s obs fs d n force k kw inv} (v : Val) :
      Act c ⟨s, obs, .node d n force (.body k kw inv) :: fs⟩ ⟨s, obs ++ [.ncomplete n none], .node d n false (.cbOk 0 v) :: fs⟩
  | nodeFail {s obs fs d n force pc} (e : Exc) :
      Act c ⟨s, obs, .node d n force pc :: fs⟩ ⟨s, obs, .node d n false (.cbFail 0 e) :: fs⟩
  | nodeSave {s obs fs d n force j v} :
      Act c ⟨s, obs, .node d n force (.cbOk j v) :: fs⟩ ⟨s, obs ++ [.save n v], .node d n false (.cbSave 0) :: fs⟩

/-- the actions of `chart.run` in the caller's task: those of every task, and the reports about the pipeline -/
inductive CallerAct (c : Ctx) : Conf → Conf → Prop
  | engine {x y} : Act c x y → CallerAct c x y
  | start {s obs} : CallerAct c ⟨s, obs, [.mgrStart]⟩ ⟨s, obs ++ [.pstart], [.mgrCbStart 0]⟩
  | cbStart {s obs j j'} : CallerAct c ⟨s, obs, [.mgrCbStart j]⟩ ⟨s, obs, [.mgrCbStart j']⟩
  | begin {s obs j} : CallerAct c ⟨s, obs, [.mgrCbStart j]⟩ ⟨s, obs, [.mgrWait]⟩
  | complete {s obs} (o : Outcome) : CallerAct c ⟨s, obs, [.mgrWait]⟩ ⟨s, obs ++ [.pcomplete o], [.mgrCbComplete 0 o]⟩
  | cbComplete {s obs j j' o} : CallerAct c ⟨s, obs, [.mgrCbComplete j o]⟩ ⟨s, obs, [.mgrCbComplete j' o]⟩
  /-- `on_pipeline_complete` raised: the second report -/
  | again {s obs fs e} (o : Outcome) : c.P.cbRaise .pcomplete 0 = some e → CallerAct c ⟨s, obs, fs⟩ ⟨s, obs ++ [.pcomplete o], fs⟩

/-- a section as seen from the stack of its task: finitely many actions of the kind `A`, then `finish` installs the stack
(`outcome`: the caller's task also records the outcome of the run) -/
inductive Runs (A : Conf → Conf → Prop) (c : Ctx) : Conf → Out → Prop
  | fin {s obs fs} (st : TaskSt) : Runs A c ⟨s, obs, fs⟩ (finish c s obs fs st)
  | outcome {x out} (o : Outcome) : Runs A c x out → Runs A c x (out.1.setOutcome o, out.2)
  | act {x y out} : A x y → Runs A c y out → Runs A c x out

theorem Runs.post {A : Conf → Conf → Prop} {c : Ctx} {Q : Conf → Prop} {Post : Out → Prop}
    (act : ∀ x y, A x y → Q x → Q y)
    (fin : ∀ s obs fs st, Q ⟨s, obs, fs⟩ → Post (finish c s obs fs st))
    (outcome : ∀ out o, Post out → Post (out.1.setOutcome o, out.2))
    {x : Conf} {out : Out} (h : Runs A c x out) (hq : Q x) : Post out := by
  induction h with
  | fin st => exact fin _ _ _ st hq
  | outcome o _ ih => exact outcome _ o (ih hq)
  | act a _ ih => exact ih (act _ _ a hq)

theorem Runs.mono {A B : Conf → Conf → Prop} {c : Ctx} (hab : ∀ x y, A x y → B x y) {x : Conf} {out : Out}
    (h : Runs A c x out) : Runs B c x out := by
  induction h with
  | fin st => exact .fin st
  | outcome o _ ih => exact .outcome o ih
  | act a _ ih => exact .act (hab _ _ a) ih

theorem Act.obs_prefix {c : Ctx} {x y : Conf} (a : Act c x y) : ∃ r, y.obs = x.obs ++ r := by
  cases a <;> first | exact ⟨[], (List.append_nil _).symm⟩ | exact ⟨_, rfl⟩

theorem CallerAct.obs_prefix {c : Ctx} {x y : Conf} (a : CallerAct c x y) : ∃ r, y.obs = x.obs ++ r := by
  cases a with
  | engine a => exact a.obs_prefix
  | _ => first | exact ⟨[], (List.append_nil _).symm⟩ | exact ⟨_, rfl⟩

theorem Runs.obs_prefix {A : Conf → Conf → Prop} {c : Ctx} (hA : ∀ x y, A x y → ∃ r, y.obs = x.obs ++ r) {x : Conf}
    {out : Out} (h : Runs A c x out) : ∃ r, out.2 = x.obs ++ r := by
  induction h with
  | @fin s obs fs st =>
    unfold finish
    split
    · exact ⟨[], (List.append_nil _).symm⟩
    · split
      · exact ⟨_, rfl⟩
      · exact ⟨[], (List.append_nil _).symm⟩
  | outcome _ _ ih => exact ih
  | act a _ ih =>
    obtain ⟨r1, h1⟩ := hA _ _ a
    obtain ⟨r2, h2⟩ := ih
    exact ⟨r1 ++ r2, by rw [h2, h1, List.append_assoc]⟩

/-! ### every section is a run -/

abbrev ERuns (c : Ctx) := Runs (Act c) c
abbrev CRuns (c : Ctx) := Runs (CallerAct c) c

theorem Runs.caller {c : Ctx} {x : Conf} {out : Out} (h : ERuns c x out) : CRuns c x out :=
  Runs.mono (fun _ _ => .engine) h

section walk
variable {c : Ctx}

theorem Runs.popAll {s : St} {obs : List Obs} {out : Out} (h : ERuns c ⟨s, obs, []⟩ out) :
    ∀ fs, ERuns c ⟨s, obs, fs⟩ out
  | [] => h
  | _ :: fs => .act .pop (Runs.popAll h fs)

theorem runs_block (s : St) (obs : List Obs) (fs : List Frame) (w : Wait) : ERuns c ⟨s, obs, fs⟩ (block c s obs fs w) :=
  .fin (.blocked w)

theorem runs_yieldNow (s : St) (obs : List Obs) (fs : List Frame) : ERuns c ⟨s, obs, fs⟩ (yieldNow c s obs fs) :=
  .fin (.runnable .go)

theorem runs_endTask (s : St) (obs : List Obs) (fs : List Frame) (r : TaskRes) : ERuns c ⟨s, obs, fs⟩ (endTask c s obs r) :=
  Runs.popAll (.fin (.done r)) fs

theorem runs_retTo (s : St) (obs : List Obs) (below : List Frame) (v : Val) :
    ERuns c ⟨s, obs, below⟩ (retTo c s obs below v) := by
  rw [retTo_finish]
  exact .fin _

theorem runs_raiseOut (s : St) (obs : List Obs) (fs below : List Frame) (r : TaskRes) :
    ERuns c ⟨s, obs, fs⟩ (raiseOut c s obs below r) := by
  obtain ⟨ks, evs, h⟩ := raiseOut_finish c s obs below r
  rw [h]
  exact .act (.resched (.woken s ks evs)) (Runs.popAll (.fin _) fs)

theorem Runs.woken {s : St} {obs : List Obs} {fs : List Frame} {out : Out} {s' : St} (e : s' = s.woken ks evs)
    (h : ERuns c ⟨s', obs, fs⟩ out) : ERuns c ⟨s, obs, fs⟩ out :=
  .act (.resched (e ▸ .woken s ks evs)) h

theorem Runs.nodeFinally {s : St} {obs : List Obs} {fs : List Frame} {out : Out} (d : DagRef) (n : Node) (u : Bool)
    (h : ERuns c ⟨nodeFinally c.P s d n u, obs, fs⟩ out) : ERuns c ⟨s, obs, fs⟩ out :=
  Runs.woken (nodeFinally_eq ..) h

theorem Runs.notify {s : St} {obs : List Obs} {fs : List Frame} {out : Out} (k : Key)
    (h : ERuns c ⟨notify s k, obs, fs⟩ out) : ERuns c ⟨s, obs, fs⟩ out :=
  Runs.woken (notify_eq ..) h

theorem Runs.notifyAll {s : St} {obs : List Obs} {fs : List Frame} {out : Out} (ks : List Key)
    (h : ERuns c ⟨notifyAll s ks, obs, fs⟩ out) : ERuns c ⟨s, obs, fs⟩ out :=
  Runs.woken (notifyAll_eq ..) h

theorem runs_cbThen {A : Conf → Conf → Prop} {s : St} {obs : List Obs} {fs : List Frame} (frames : Nat → List Frame) (j : Nat)
    (k : St → List Obs → Out) (hY : ∀ j, Runs A c ⟨s, obs, fs⟩ (yieldNow c s obs (frames j)))
    (hK : Runs A c ⟨s, obs, fs⟩ (k s obs)) : Runs A c ⟨s, obs, fs⟩ (cbThen c s obs frames j k) := by
  unfold cbThen; split
  · exact hK
  · exact hY _

theorem runs_cbCall {A : Conf → Conf → Prop} {s : St} {obs : List Obs} {fs : List Frame} (cb : Cb) (m : Node)
    (frames : Nat → List Frame) (kOk : St → List Obs → Out) (kErr : Exc → St → List Obs → Out)
    (hY : ∀ j, Runs A c ⟨s, obs, fs⟩ (yieldNow c s obs (frames j)))
    (hOk : Runs A c ⟨s, obs, fs⟩ (kOk s obs)) (hErr : ∀ e, c.P.cbRaise cb m = some e → Runs A c ⟨s, obs, fs⟩ (kErr e s obs)) :
    Runs A c ⟨s, obs, fs⟩ (cbCall c cb m s obs frames kOk kErr) := by
  unfold cbCall
  split
  · exact hErr _ ‹_›
  · exact runs_cbThen _ _ _ hY hOk

theorem runs_nodeYield {s : St} {obs : List Obs} {d : DagRef} {n : Node} {f f' : Bool} {pc pc' : NodePc} {below : List Frame}
    (hpc : pc.SameCb pc') (hf : f' = f ∨ f' = false) :
    ERuns c ⟨s, obs, .node d n f pc :: below⟩ (yieldNow c s obs (.node d n f' pc' :: below)) :=
  .act (.nodeCb hpc hf) (runs_yieldNow ..)

/-! #### `_run_node` -/

theorem runs_nodeCbRaise (s : St) (obs : List Obs) (fs : List Frame) (d : DagRef) (n : Node) (below : List Frame) (e : Exc) :
    ERuns c ⟨s, obs, fs⟩ (nodeCbRaise c s obs d n below e) :=
  Runs.nodeFinally d n true (runs_raiseOut ..)

theorem runs_nodeCbRaiseInTry (s : St) (obs : List Obs) (fs : List Frame) (d : DagRef) (n : Node) (below : List Frame)
    (e : Exc) : ERuns c ⟨s, obs, fs⟩ (nodeCbRaiseInTry c s obs d n below e) := by
  unfold nodeCbRaiseInTry
  split
  · exact .act (.emit _ rfl) (runs_nodeCbRaise ..)
  · exact runs_nodeCbRaise ..

theorem runs_nodeFinish (s : St) (obs : List Obs) (f : Frame) (d : DagRef) (n : Node) (below : List Frame) :
    ERuns c ⟨s, obs, f :: below⟩ (nodeFinish c s obs d n below) :=
  Runs.nodeFinally d n true (.act .pop (runs_retTo ..))

/-- `_run_node` after `_execute_node`: the task that executed the node and reports a real value is suspended in the
successful `on_node_complete` -/
theorem runs_nodePost (s : St) (obs : List Obs) (d : DagRef) (n : Node) (f : Bool) (pc : NodePc) (below : List Frame)
    (v : Val) (own : Bool) (hpc : own = true → v.isRecur = false → v.isExc = false → ∃ j, pc = .cbOk j v) :
    ERuns c ⟨s, obs, .node d n f pc :: below⟩ (nodePost c s obs d n below v own) := by
  have main : ∀ (s' : St) (obs' : List Obs), ERuns c ⟨s', obs', .node d n f pc :: below⟩
      (if (own && !v.isRecur && !v.isExc) = true then
        cbCall c .save n s' (obs' ++ [.save n v]) (fun j => .node d n false (.cbSave j) :: below)
          (fun s obs => nodeFinish c s obs d n below) (fun e s obs => nodeCbRaise c s obs d n below e)
      else retTo c (nodeFinally c.P s' d n (!v.isRecur)) obs' below .none) := by
    intro s' obs'
    split
    · next hc =>
      simp only [Bool.and_eq_true, Bool.not_eq_eq_eq_not, Bool.not_true] at hc
      obtain ⟨j, rfl⟩ := hpc hc.1.1 hc.1.2 hc.2
      exact .act .nodeSave (runs_cbCall _ _ _ _ _ (fun _ => runs_nodeYield .cbSave (Or.inl rfl))
        (runs_nodeFinish ..) (fun e _ => runs_nodeCbRaise ..))
    · exact Runs.nodeFinally d n _ (.act .pop (runs_retTo ..))
  unfold nodePost recSpawn
  by_cases hsp : recSpawns c.P s n v = true <;> simp only [hsp, if_true]
  · exact .act (.spawn _ _ rfl) (.act (.emit _ rfl) (.act (.silent (.storeIf ..)) (main _ _)))
  · exact .act (.silent (.storeIf ..)) (main _ _)

theorem runs_nodeFailCont (s : St) (obs : List Obs) (d : DagRef) (n : Node) (f : Bool) (j : Nat) (e : Exc)
    (below : List Frame) : ERuns c ⟨s, obs, .node d n f (.cbFail j e) :: below⟩ (nodeFailCont c s obs d n below e) := by
  unfold nodeFailCont
  split
  · exact runs_nodePost s obs d n f _ below (.exc e) true (fun _ _ h => by cases h)
  · exact Runs.nodeFinally d n true (runs_raiseOut ..)

theorem runs_nodeFail (s : St) (obs : List Obs) (d : DagRef) (n : Node) (f : Bool) (pc : NodePc) (e : Exc)
    (below : List Frame) : ERuns c ⟨s, obs, .node d n f pc :: below⟩ (nodeFail c s obs d n below e) := by
  unfold nodeFail
  exact .act (.emit _ rfl) (.act (.nodeFail e) (runs_cbCall _ _ _ _ _ (fun _ => runs_nodeYield .cbFail (Or.inl rfl))
    (runs_nodeFailCont ..) (fun e' _ => runs_nodeCbRaise ..)))

theorem runs_nodeSuccess (s : St) (obs : List Obs) (d : DagRef) (n : Node) (f : Bool) (k : Nat) (kw : Kwargs) (inv : Nat)
    (v : Val) (below : List Frame) :
    ERuns c ⟨s, obs, .node d n f (.body k kw inv) :: below⟩ (nodeSuccess c s obs d n below v) := by
  unfold nodeSuccess
  exact .act (.nodeOk v) (runs_cbCall _ _ _ _ _ (fun _ => runs_nodeYield .cbOk (Or.inl rfl))
    (runs_nodePost _ _ d n false _ below v true (fun _ _ _ => ⟨0, rfl⟩)) (fun e _ => runs_nodeCbRaiseInTry ..))

theorem runs_nodeDefault (s : St) (obs : List Obs) (d : DagRef) (n : Node) (f : Bool) (k : Nat) (kw : Kwargs) (inv : Nat)
    (below : List Frame) (hd : f = true ∨ (c.P.cfg n).useDefault = true) :
    ERuns c ⟨s, obs, .node d n f (.body k kw inv) :: below⟩ (nodeDefault c s obs d n below kw) := by
  unfold nodeDefault
  refine .act (.nodeDflt hd) ?_
  split
  · exact runs_nodeSuccess ..
  · split
    · exact runs_nodeFail ..
    · exact Runs.nodeFinally d n true (runs_raiseOut ..)

theorem runs_nodeSleep (s : St) (obs : List Obs) (d : DagRef) (n : Node) (f : Bool) (j k : Nat) (kw : Kwargs) (inv : Nat)
    (below : List Frame) :
    ERuns c ⟨s, obs, .node d n f (.cbRetry j k kw inv) :: below⟩ (nodeSleep c s obs d n f below k kw inv) := by
  unfold nodeSleep
  simp only []
  refine .act .nodeSleep ?_
  split
  · exact .act (.emit _ rfl) (runs_block ..)
  · exact runs_yieldNow ..

theorem runs_nodeAfterBody (s : St) (obs : List Obs) (d : DagRef) (n : Node) (f : Bool) (k : Nat) (kw : Kwargs) (inv : Nat)
    (o : BodyOutcome) (below : List Frame) :
    ERuns c ⟨s, obs, .node d n f (.body k kw inv) :: below⟩ (nodeAfterBody c s obs d n f below k kw inv o) := by
  unfold nodeAfterBody
  simp only []
  split
  · exact runs_nodeSuccess ..
  · next e =>
    split
    · split
      · split
        · exact runs_nodeDefault _ _ d n f k kw inv below (Or.inr ‹_›)
        · exact runs_nodeFail ..
      · next hk =>
        exact .act (.emit _ rfl) (.act (.nodeRetry (by simpa using hk))
          (runs_cbCall _ _ _ _ _ (fun _ => runs_nodeYield .cbRetry (Or.inl rfl))
            (runs_nodeSleep ..) (fun e' _ => runs_nodeCbRaiseInTry ..)))
    · split
      · split
        · exact runs_nodeDefault _ _ d n f k kw inv below (Or.inr ‹_›)
        · exact runs_nodeFail ..
      · exact Runs.nodeFinally d n true (runs_raiseOut ..)

theorem runs_nodeAttempt (s : St) (obs : List Obs) (d : DagRef) (n : Node) (f : Bool) (k : Nat) (kw : Kwargs) (inv : Nat)
    (below : List Frame) :
    ERuns c ⟨s, obs, .node d n f (.body k kw inv) :: below⟩ (nodeAttempt c s obs d n f below k kw inv) := by
  unfold nodeAttempt
  split
  · exact runs_nodeDefault _ _ d n f k kw inv below (Or.inl ‹_›)
  · next hf =>
    have hf : f = false := by simpa using hf
    subst hf
    simp only []
    refine .act .nodeCall ?_
    split
    · exact runs_nodeAfterBody ..
    · exact .act (.emit _ rfl) (runs_block ..)

theorem runs_nodeBegin (s : St) (obs : List Obs) (d : DagRef) (n : Node) (f : Bool) (j inv : Nat) (below : List Frame) :
    ERuns c ⟨s, obs, .node d n f (.cbStart j inv) :: below⟩ (nodeBegin c s obs d n f below inv) := by
  unfold nodeBegin
  split
  · exact runs_nodeFail ..
  · exact .act (.nodeArgs ‹_›) (runs_nodeAttempt ..)

theorem runs_nodeStart (s : St) (obs : List Obs) (d : DagRef) (n : Node) (f : Bool) (below : List Frame) :
    ERuns c ⟨s, obs, .node d n f .start :: below⟩ (nodeStart c s obs d n f below) := by
  unfold nodeStart
  split
  · split
    · exact runs_nodePost _ _ d n f _ below _ false (fun h => nomatch h)
    · exact .act .nodeWait (runs_block ..)
  · next hp =>
    exact .act (.nodeStart (by simpa using hp)) (runs_cbCall _ _ _ _ _ (fun _ => runs_nodeYield .cbStart (Or.inl rfl))
      (runs_nodeBegin ..) (fun e _ => runs_nodeCbRaise ..))

/-! #### `_run_dag`, `_run_switch`, `_run_oneof`, `_run_recurrent_subgraph` -/

theorem runs_dagWaitDest (s : St) (obs : List Obs) (d : DagRef) (below : List Frame) :
    ERuns c ⟨s, obs, below⟩ (dagWaitDest c s obs d below) := by
  unfold dagWaitDest
  split
  · split
    · exact runs_retTo ..
    · exact .act (.push _ rfl) (runs_block ..)
  · exact .act (.push _ rfl) (runs_block ..)

theorem launchFrame_fresh (P : Program) (d : DagRef) (n : Node) : (launchFrame P d n).fresh = true := by
  unfold launchFrame; split
  · rfl
  · split <;> rfl

theorem runs_dagLaunch (d : DagRef) (below : List Frame) : ∀ (rest : List Node) (s : St) (obs : List Obs),
    ERuns c ⟨s, obs, below⟩ (dagLaunch c d below s obs rest)
  | [], s, obs => by simp only [dagLaunch]; exact runs_dagWaitDest ..
  | n :: rest, s, obs => by
    simp only [dagLaunch]
    split
    · split
      · have tail : ∀ s', ERuns c ⟨s', obs, below⟩
            (retTo c (notify (Eng.notifyAll s' ((c.P.g.desc1 n).map Key.node)) d.destKey) obs below .none) :=
          fun s' => Runs.notifyAll _ (Runs.notify _ (runs_retTo ..))
        split
        · split
          · exact tail _
          · exact .act (.silent (.setRes ..)) (Runs.notifyAll _ (tail _))
        · exact tail _
      · exact .act (.spawn _ _ (launchFrame_fresh ..)) (.act (.emit _ rfl) (runs_dagLaunch d below rest _ _))
    · exact .act (.push _ rfl) (runs_block ..)

theorem runs_dagInit (s : St) (obs : List Obs) (d : DagRef) (below : List Frame) :
    ERuns c ⟨s, obs, below⟩ (dagInit c s obs d below) := by
  have main : ∀ (s' : St) (obs' : List Obs), ERuns c ⟨s', obs', below⟩
      (match c.ord with
       | [] => retTo c s' obs' below .none
       | ord => dagLaunch c d below s' obs' ord) := by
    intro s' obs'
    split
    · exact runs_retTo ..
    · exact runs_dagLaunch ..
  unfold dagInit
  refine .act (.refresh d.nodes) (.act (.emit (.topo c.ord) rfl) ?_)
  by_cases hv : validOrder c.P (s.refresh d.nodes) d c.ord = true <;> simp only [hv, if_true]
  · exact .act (.silent (.noteOrder ..)) (main _ _)
  · exact .act (.emit _ rfl) (.act (.silent (.noteOrder ..)) (main _ _))

theorem runs_oneofWin (s : St) (obs : List Obs) (head cand : Node) (below : List Frame) :
    ERuns c ⟨s, obs, below⟩ (oneofWin c s obs head cand below) :=
  .act (.silent (.setRes ..)) (Runs.notify _ (Runs.notifyAll _ (Runs.notify _ (runs_retTo ..))))

theorem runs_oneofTry (d : DagRef) (head : Node) (below : List Frame) : ∀ (cands : List Node) (s : St) (obs : List Obs),
    ERuns c ⟨s, obs, below⟩ (oneofTry c d head below s obs cands)
  | [], s, obs => by
    simp only [oneofTry]
    split
    · exact .act (.silent (.setRes ..)) (Runs.notify _ (Runs.notifyAll _ (runs_retTo ..)))
    · exact Runs.notify _ (runs_raiseOut ..)
  | cand :: rest, s, obs => by
    simp only [oneofTry]
    refine .act (.silent (.openCand s true cand)) ?_
    split
    · exact runs_raiseOut ..
    · next sub _ =>
      refine .act (.refresh sub.nodes) (.act (.emit (.spawn ((openCand s true cand).refresh sub.nodes).tasks.length .dag) rfl)
        (.act (.spawn (.dagInit sub) .dag rfl) ?_))
      split
      · split
        · exact runs_oneofTry d head below rest _ _
        · exact runs_oneofWin ..
      · exact .act (.push _ rfl) (runs_block ..)

theorem runs_oneofWake (s : St) (obs : List Obs) (d : DagRef) (head cand : Node) (rest : List Node) (sub : DagRef)
    (below : List Frame) : ERuns c ⟨s, obs, below⟩ (oneofWake c s obs d head cand rest sub below) := by
  unfold oneofWake
  split
  · split
    · exact runs_oneofTry ..
    · exact runs_oneofWin ..
  · exact .act (.push _ rfl) (runs_block ..)

theorem runs_switchStart (s : St) (obs : List Obs) (d : DagRef) (n : Node) (below : List Frame) :
    ERuns c ⟨s, obs, below⟩ (switchStart c s obs d n below) := by
  unfold switchStart
  split
  · simp only []
    split
    · exact .act (.silent (.setRes ..)) (Runs.notify _ (Runs.notifyAll _ (runs_retTo ..)))
    · exact Runs.notify _ (runs_raiseOut ..)
  · next l cn _ =>
    simp only []
    refine .act (.silent (.setSw s n (l, cn))) (.act (.silent (.openCand _ d.isOneof cn)) ?_)
    split
    · exact runs_raiseOut ..
    · exact .act (.push (.switchRet d n) rfl) (runs_dagInit ..)

theorem runs_recFinish (s : St) (obs : List Obs) (n start : Node) (below : List Frame) :
    ERuns c ⟨s, obs, below⟩ (recFinish c s obs n start below) :=
  .act (.silent (.setActive ..)) (runs_retTo ..)

theorem runs_recIter (s : St) (obs : List Obs) (d : DagRef) (n start : Node) (g : DagRef) (k : Nat) (r : Val)
    (below fs : List Frame)
    (h : (fs = below ∧ k = 0 ∧ (c.P.g.attr n).startNode = some start) ∨
         ∃ k', k = k' + 1 ∧ fs = .recIterRet d n start g k' :: below) :
    ERuns c ⟨s, obs, fs⟩ (recIter c s obs d n start g k r below) := by
  have toBelow : ∀ {s obs out}, ERuns c ⟨s, obs, below⟩ out → ERuns c ⟨s, obs, fs⟩ out := by
    intro s obs out hr
    rcases h with ⟨rfl, _⟩ | ⟨_, _, rfl⟩
    · exact hr
    · exact .act .pop hr
  unfold recIter
  simp only []
  split
  · rcases h with ⟨rfl, rfl, hs⟩ | ⟨k', rfl, rfl⟩
    · exact .act (.silent (.setAdditional ..)) (.act (.iterFirst _ hs) (runs_dagInit ..))
    · exact .act (.silent (.setAdditional ..)) (.act (.iterNext _) (runs_dagInit ..))
  · split
    · next hc =>
      have hd : (c.P.cfg n).useDefault = true := (Bool.and_eq_true _ _ ▸ hc).2
      rcases h with ⟨rfl, rfl, hs⟩ | ⟨k', rfl, rfl⟩
      · exact .act (.forcedFirst hs hd) (runs_nodeStart ..)
      · exact .act (.forcedNext hd) (runs_nodeStart ..)
    · split
      · exact .act (.silent (.setRes ..)) (Runs.notify _ (Runs.notifyAll _ (toBelow (runs_recFinish ..))))
      · exact Runs.notify _ (runs_raiseOut ..)

theorem runs_recStart (s : St) (obs : List Obs) (d : DagRef) (n : Node) (r : Val) (below : List Frame) :
    ERuns c ⟨s, obs, below⟩ (recStart c s obs d n r below) := by
  unfold recStart
  split
  · exact runs_raiseOut ..
  · next start hst =>
    split
    · exact runs_retTo ..
    · simp only []
      refine .act (.silent (.setActive s ((start, n) :: s.active))) ?_
      split
      · exact runs_raiseOut ..
      · split
        · exact runs_raiseOut ..
        · exact runs_recIter _ _ d n start _ 0 r below below (Or.inl ⟨rfl, rfl, hst⟩)

/-! #### `chart.run` -/

theorem runs_mgrReturn (s : St) (obs : List Obs) (fs : List Frame) (o : Outcome) : ERuns c ⟨s, obs, fs⟩ (mgrReturn c s obs o) :=
  .outcome o (.act (.emit _ rfl) (runs_endTask ..))

theorem runs_mgrYield (s : St) (obs : List Obs) (f f' : Frame) (h : CallerAct c ⟨s, obs, [f]⟩ ⟨s, obs, [f']⟩) :
    CRuns c ⟨s, obs, [f]⟩ (yieldNow c s obs [f']) :=
  .act h (runs_yieldNow ..).caller

theorem runs_mgrComplete (s : St) (obs : List Obs) (o : Outcome) : CRuns c ⟨s, obs, [.mgrWait]⟩ (mgrComplete c s obs o) := by
  unfold mgrComplete
  split
  · exact (runs_mgrReturn ..).caller
  · refine .act (.complete o) (runs_cbCall _ _ _ _ _ (fun _ => runs_mgrYield _ _ _ _ .cbComplete)
      (runs_mgrReturn ..).caller fun e he => ?_)
    dsimp only
    split
    · split
      · exact .act (.again _ he) (runs_mgrReturn ..).caller
      · exact (runs_mgrReturn ..).caller
    · exact (runs_mgrReturn ..).caller

theorem runs_mgrCheck (s : St) (obs : List Obs) : CRuns c ⟨s, obs, [.mgrWait]⟩ (mgrCheck c s obs) := by
  unfold mgrCheck
  split
  · exact .act (.engine (.resched (.cancelTasks ..))) (runs_mgrComplete ..)
  · exact (runs_block ..).caller

theorem runs_mgrBegin (s : St) (obs : List Obs) (j : Nat) : CRuns c ⟨s, obs, [.mgrCbStart j]⟩ (mgrBegin c s obs) := by
  unfold mgrBegin
  refine .act .begin ?_
  split
  · exact runs_mgrComplete ..
  · split
    · exact runs_mgrComplete ..
    · exact .act (.engine (.emit _ rfl)) (.act (.engine (.spawn _ _ rfl)) (runs_mgrCheck ..))

theorem runs_mgrStarted (s : St) (obs : List Obs) :
    CRuns c ⟨s, obs ++ [.pstart], [.mgrCbStart 0]⟩ (mgrStart c s obs) :=
  runs_cbCall _ _ _ _ _ (fun _ => runs_mgrYield _ _ _ _ .cbStart) (runs_mgrBegin ..) fun _ _ => (runs_mgrReturn ..).caller

/-! #### dispatch -/

theorem runs_deliverCancel (s : St) (tk : Task) (fs : List Frame) : ERuns c ⟨s, [], fs⟩ (deliverCancel c s tk) := by
  obtain ⟨s', hr, h | h⟩ := deliverCancel_cases c s tk <;> rw [h]
  · exact .act (.resched hr) (runs_endTask ..)
  · exact .outcome _ (.act (.resched hr) (.act (.emit (.returned .cancelled) rfl) (runs_endTask ..)))

theorem stepTask_runs {s : St} {out : Out} (h : stepTask c s = some out) :
    ∃ tk, s.tasks[c.t]? = some tk ∧ CRuns c ⟨s, [], tk.frames⟩ out := by
  obtain ⟨tk, rv, htk, -, ⟨-, rfl⟩ | ⟨-, hsec⟩⟩ := stepTask_cases h
  · exact ⟨tk, htk, (runs_deliverCancel ..).caller⟩
  · refine ⟨tk, htk, ?_⟩
    generalize tk.frames = fs at hsec
    cases hsec with
    | mgrStart => exact .act .start (runs_mgrStarted ..)
    | mgrWait => exact runs_mgrCheck ..
    | mgrCbStart => exact runs_cbThen _ _ _ (fun _ => runs_mgrYield _ _ _ _ .cbStart) (runs_mgrBegin ..)
    | mgrCbComplete => exact runs_cbThen _ _ _ (fun _ => runs_mgrYield _ _ _ _ .cbComplete) (runs_mgrReturn ..).caller
    | dagInit => exact Runs.caller (Runs.act .pop (runs_dagInit ..))
    | dagLaunch => exact Runs.caller (Runs.act .pop (runs_dagLaunch ..))
    | dagWaitDest => exact Runs.caller (Runs.act .pop (runs_dagWaitDest ..))
    | nodeStart => exact (runs_nodeStart ..).caller
    | nodeEvWait => exact (runs_nodePost _ _ _ _ _ _ _ _ false (fun h => nomatch h)).caller
    | nodeBody => exact (runs_nodeAfterBody ..).caller
    | nodeSleep => exact Runs.caller (Runs.act .nodeNext (runs_nodeAttempt ..))
    | nodeCbStart =>
      exact (runs_cbThen _ _ _ (fun _ => runs_nodeYield .cbStart (Or.inl rfl)) (runs_nodeBegin ..)).caller
    | nodeCbRetry =>
      exact (runs_cbThen _ _ _ (fun _ => runs_nodeYield .cbRetry (Or.inl rfl)) (runs_nodeSleep ..)).caller
    | nodeCbOk =>
      exact (runs_cbThen _ _ _ (fun _ => runs_nodeYield .cbOk (Or.inr rfl))
        (runs_nodePost _ _ _ _ _ _ _ _ true (fun _ _ _ => ⟨_, rfl⟩))).caller
    | nodeCbFail =>
      exact (runs_cbThen _ _ _ (fun _ => runs_nodeYield .cbFail (Or.inr rfl)) (runs_nodeFailCont ..)).caller
    | nodeCbSave =>
      exact (runs_cbThen _ _ _ (fun _ => runs_nodeYield .cbSave (Or.inr rfl)) (runs_nodeFinish ..)).caller
    | switchStart => exact Runs.caller (Runs.act .pop (runs_switchStart ..))
    | switchRet => exact Runs.caller (Runs.act .pop (Runs.notifyAll _ (runs_retTo ..)))
    | oneofStart => exact Runs.caller (Runs.act .pop (runs_oneofTry ..))
    | oneofWait => exact Runs.caller (Runs.act .pop (runs_oneofWake ..))
    | recStart => exact Runs.caller (Runs.act .pop (runs_recStart ..))
    | recIterErr =>
      refine Runs.caller (.act .pop ?_)
      split
      · exact .act (.silent (.setRes ..)) (Runs.notify _ (Runs.notifyAll _ (runs_retTo ..)))
      · exact runs_retTo ..
    | recIterDone => exact Runs.caller (Runs.act .pop (runs_recFinish ..))
    | recIterNext => exact (runs_recIter _ _ _ _ _ _ _ _ _ _ (Or.inr ⟨_, rfl, rfl⟩)).caller
    | recDfltRet => exact Runs.caller (Runs.act .pop (runs_recFinish ..))

end walk

end MLPE.Eng
