import MLPE.Proofs.PlainNode
import MLPE.Proofs.PlainMain

/-!
# Plain pipelines: every choice (`pinv_step`), the finishing phase (`fin_step`), pending runs (`Live`)

`OracleOK`: the launch order the oracle supplies is one `validOrder` accepts (a hypothesis of every theorem about plain runs;
the lock-step tie checks it of every order the real `_get_node_order` returns).  `hci : CoreInv s.core`
(`Proofs/CoreInv.lean`) is used at one point of a node's start: a node found unprocessed has not been executed before, nothing
being hidden in a plain run (`CoreInv.unprocessed`).
-/
namespace MLPE.Eng
open MLPE
variable {val : Node → Option Val}

/-! ### every choice -/

/-- a retry timer fires: only node tasks sleep -/
theorem pinv_step_timer {P : Program} {d : DagRef} (hp : PlainP P d) {s : St} (h : PInv P d val s) (t : Nat) (out : Out)
    (hs : step P s (.timer t) = some out) : PInv P d val out.1 := by
  obtain ⟨tk, _, _, _, _, htk, hst, rfl⟩ := step_timer hs
  obtain ⟨L, hr, hrun⟩ := h.role htk
  cases hr with
  | caller hc => cases hc <;> cases hst
  | main hm => cases hm <;> cases hst
  | node i hi hok =>
    cases hok with
    | sleeping k kw inv dl h1 h2 h3 =>
      have x := (NodeMid.start (c := { P := P, t := 2 + i, ord := [], pick := 0 }) h (hrun (by omega)) hi rfl htk
        (.sleeping k kw inv dl h1 h2 h3)).1 h1
      exact x.set hp _ _ (.slept k kw inv h1 h2 h3) nofun
    | _ => cases hst

theorem pinv_step_cancel {P : Program} {d : DagRef} {s : St} (h : PInv P d val s) (out : Out)
    (hs : step P s .cancelCaller = some out) : PInv P d val out.1 := by
  simp only [step] at hs
  obtain rfl := Option.some.inj hs
  obtain ⟨ctk, hc0, hcok⟩ := h.caller
  rw [cancelTask_eq, hc0]
  apply pinv_replace_caller h
  cases hcok with
  | start mc h1 => exact .start true h1
  | waiting h1 _ _ | woken mc h1 => exact .woken true h1
  | cbStart j mc h1 => exact .cbStart j true h1

/-- the launch order the oracle supplies is accepted by the model whenever a `_run_dag` starts -/
def OracleOK (P : Program) (s : St) : Choice → Prop
  | .run t ord _ => ∀ tk d', s.tasks[t]? = some tk → tk.frames = [.dagInit d'] → validOrder P s d' ord = true
  | _ => True

/-- **one step from a state of a pending plain run**: the invariant is preserved, or the caller leaves with an
explained outcome, or the finishing phase starts -/
theorem pinv_step {P : Program} {d : DagRef} (hp : PlainP P d) {s : St} (h : PInv P d val s) (ch : Choice) (out : Out)
    (hs : step P s ch = some out) (ho : OracleOK P s ch) (hci : CoreInv s.core) : StepResult P d val s out := by
  cases ch with
  | gate n inv att => exact .running (pinv_step_gate h n inv att out hs)
  | timer t => exact .running (pinv_step_timer hp h t out hs)
  | cancelCaller => exact .running (pinv_step_cancel h out hs)
  | run t ord pick =>
    simp only [step] at hs
    by_cases ht0 : t = 0
    · exact pinv_step_caller _ hp h ht0 out hs
    · refine .running ?_
      obtain ⟨tk, _, htk, _⟩ := stepTask_cases hs
      obtain ⟨L, hr, hrun⟩ := h.role htk
      cases hr with
      | caller => exact absurd rfl ht0
      | main hm => exact pinv_step_main _ hp h L (hrun ht0) _ htk hm rfl out hs (fun d' hd' => ho _ d' htk hd')
      | node i hi => exact pinv_step_node _ hp h L (hrun ht0) i hi rfl out hs hci

theorem pinv_init {P : Program} {d : DagRef} : PInv P d val init := by
  refine ⟨⟨fun _ => rfl, fun _ => rfl, fun _ => rfl, fun _ => rfl, fun _ => rfl, fun _ => rfl, rfl, rfl⟩, fun p v hv => by simp [init] at hv,
    ⟨_, rfl, .start false rfl⟩, Or.inl ⟨rfl, fun _ => ⟨rfl, rfl⟩⟩⟩

/-! ### the finishing phase: the caller is suspended in `on_pipeline_complete`, everybody else is being cancelled -/

theorem Fin.resched {P : Program} {d : DagRef} {o : Outcome} {s s' : St} (h : Fin P d val o s) (r : Resched s s') :
    Fin P d val o s' := by
  obtain ⟨j, mc, hc0⟩ := h.caller
  refine ⟨h.ok, ?_, ?_, (congrArg St.outcome r.data).trans h.pend⟩
  · obtain ⟨⟨fr, st, mc', nm⟩, h', rt⟩ := r.fwd hc0
    obtain rfl : fr = _ := rt.frames
    obtain rfl : nm = _ := rt.name
    obtain rfl : st = _ := rt.st.resolve_right (fun ⟨⟨w, hw⟩, _⟩ => by cases hw)
    exact ⟨j, mc', h'⟩
  · intro i tk' hi0 hi
    obtain ⟨tk, h0, rt⟩ := r.back hi
    obtain ⟨a, b⟩ := h.others i tk hi0 h0
    exact ⟨rt.marked a, by rw [rt.frames]; exact b⟩

theorem Fin.setTask {P : Program} {d : DagRef} {o : Outcome} {s : St} (h : Fin P d val o s) (t : Nat) (tk' : Task)
    (ht : t < s.tasks.length)
    (h0 : t = 0 → ∃ j mc, tk' = { frames := [.mgrCbComplete j o], st := .runnable .go, mustCancel := mc, name := .caller })
    (h1 : t ≠ 0 → tk'.marked = true ∧ isCallerFrames tk'.frames = false) : Fin P d val o (s.setTask t tk') := by
  obtain ⟨j, mc, hc0⟩ := h.caller
  refine ⟨h.ok, ?_, ?_, h.pend⟩
  · by_cases ht0 : t = 0
    · obtain ⟨j', mc', rfl⟩ := h0 ht0
      exact ⟨j', mc', by rw [getElem?_setTask ht, if_pos ht0.symm]⟩
    · exact ⟨j, mc, by rw [getElem?_setTask ht, if_neg (Ne.symm ht0)]; exact hc0⟩
  · intro i tk hi0 hi
    rw [getElem?_setTask ht] at hi
    split at hi
    · next hit => cases hi; exact h1 (hit ▸ hi0)
    · exact h.others i tk hi0 hi

/-- **a step in the finishing phase**: the caller returns the decided outcome (or `CancelledError` if it was cancelled
meanwhile), or the phase goes on — the other tasks only end -/
theorem fin_step {P : Program} {d : DagRef} {o : Outcome} {s : St} (h : Fin P d val o s) (ch : Choice) (out : Out)
    (hs : step P s ch = some out) :
    (∃ o', out.1.outcome = some o' ∧ OutcomeOK P d val s o') ∨ Fin P d val o out.1 := by
  rcases step_cases hs with ⟨t, ord, pick, rfl, hrun⟩ | ⟨r, _⟩
  · obtain ⟨tk, rv, htk, hrv, hcase⟩ := stepTask_cases hrun
    by_cases ht0 : t = 0
    · subst ht0
      obtain ⟨j, mc, hc0⟩ := h.caller
      rw [hc0] at htk; cases htk
      rcases hcase with ⟨hmc, rfl⟩ | ⟨hmc, hsec⟩
      · exact .inl ⟨.cancelled, by simp [deliverCancel, St.setOutcome], _, hc0, hmc⟩
      · cases hsec
        cases j with
        | zero => exact .inl ⟨o, by simp [cbThen, mgrReturn, St.setOutcome], h.ok s⟩
        | succ j' =>
          simp only [cbThen]
          rw [yieldNow_fst (c := ⟨P, 0, ord, pick⟩) hc0]
          exact .inr (h.setTask 0 _ (getElem?_lt hc0) (fun _ => ⟨j', mc, rfl⟩) (fun h => absurd rfl h))
    · -- somebody else steps: marked and not done, it has a cancellation pending, which is delivered
      obtain ⟨hm, hfr⟩ := h.others t tk ht0 htk
      rcases hcase with ⟨_, rfl⟩ | ⟨hmc, _⟩
      · rw [deliverCancel_engine _ s hfr]
        obtain ⟨ks, evs, hu⟩ := raiseOut_finish ⟨P, t, ord, pick⟩ s [] tk.frames .cancelled
        obtain ⟨tk1, hu1, _⟩ := (Resched.woken s ks evs).fwd htk
        rw [hu, finish_done (c := ⟨P, t, ord, pick⟩) hu1]
        exact .inr ((h.resched (.woken s ks evs)).setTask t _ (getElem?_lt hu1) (fun h => absurd h ht0)
          (fun _ => ⟨rfl, rfl⟩))
      · simp [Task.marked, Task.isDone, hrv, hmc] at hm
  · exact .inr (h.resched r)

/-! ### pending runs -/

/-- executions of a run that is still pending: every step starts in a state in which the caller has not left -/
inductive Live (P : Program) : St → Prop
  | init : Live P init
  | step {s s' : St} {c : Choice} {obs : List Obs} :
      Live P s → s.outcome = none → OracleOK P s c → step P s c = some (s', obs) → Live P s'

theorem Live.reach {P : Program} {s : St} (h : Live P s) : Reach P s := by
  induction h with
  | init => exact .init
  | step _ _ _ hs ih => exact .step ih hs

theorem live_step {P : Program} {d : DagRef} (hp : PlainP P d) {s : St} (h : PInv P d val s ∨ ∃ o, Fin P d val o s)
    (c : Choice) (out : Out) (hs : step P s c = some out) (hor : OracleOK P s c) (hci : CoreInv s.core) :
    (∃ o, out.1.outcome = some o ∧ OutcomeOK P d val s o) ∨ PInv P d val out.1 ∨ ∃ o, Fin P d val o out.1 := by
  rcases h with hinv | ⟨o0, hf⟩
  · cases pinv_step hp hinv c out hs hor hci with
    | returned o ho hok => exact .inl ⟨o, ho, hok⟩
    | running h2 => exact .inr (.inl h2)
    | finishing o h2 => exact .inr (.inr ⟨o, h2⟩)
  · exact (fin_step hf c out hs).imp id fun h2 => .inr ⟨o0, h2⟩

/-- **every state of a pending plain run** satisfies the invariant, or is in the finishing phase (the outcome is decided
and explained, the caller is suspended in `on_pipeline_complete`) -/
theorem pinv_live {P : Program} {d : DagRef} (hp : PlainP P d) {s : St} (h : Live P s) (ho : s.outcome = none) :
    PInv P d val s ∨ ∃ o, Fin P d val o s := by
  induction h with
  | init => exact Or.inl pinv_init
  | @step s s' c obs hr hso hor hs ih =>
    rcases live_step hp (ih hso) c (s', obs) hs hor (coreInv_reach hr.reach) with ⟨o, ho1, _⟩ | h2
    · rw [ho] at ho1; cases ho1
    · exact h2

/-- **the step that ends a pending plain run** yields an outcome explained by the solution -/
theorem outcome_live {P : Program} {d : DagRef} (hp : PlainP P d) {s : St} (h : Live P s) (hpend : s.outcome = none)
    (c : Choice) (hor : OracleOK P s c) (out : Out) (hs : step P s c = some out) (o : Outcome)
    (ho : out.1.outcome = some o) : OutcomeOK P d val s o := by
  rcases live_step hp (pinv_live (val := val) hp h hpend) c out hs hor (coreInv_reach h.reach) with
    ⟨o', ho1, hok⟩ | h2 | ⟨o', h2⟩
  · rw [ho] at ho1; cases ho1; exact hok
  · have := h2.quiet.pend; rw [ho] at this; cases this
  · have := h2.pend; rw [ho] at this; cases this

end MLPE.Eng
