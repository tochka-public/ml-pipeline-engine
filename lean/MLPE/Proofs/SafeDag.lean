import MLPE.Proofs.Safe

/-!
# Switch / one-of pipelines: the handlers of `_run_dag`, `_run_oneof`, `_run_switch`, `chart.run` preserve the value invariant

What readiness gives the frame of a launched task (`launchFrame_ok`), the launch loop (`safe_dagLaunch`), the key lemma of
one-ofs `hasError_none` (an exception stored anywhere in a candidate's reduced DAG means the candidate has no value), the
engine's lookup of a case against the dataflow reading (`switchSel_sem`), and the verdict of `manager.run`.
-/
namespace MLPE.Eng
open MLPE

variable {val : Node → Option Val}
variable {c : Ctx} {fs below : List Frame} {s s' : St} {obs : List Obs}

/-! ### `_run_dag` -/

theorem ready_res {P : Program} {s : St} {d : DagRef} {n p : Node}
    (hr : ready P s d n = true) (hp : p ∈ predsFor P s d n) : (s.res p).isSome = true :=
  isSome_res_of_exists (Bool.and_eq_true _ _ ▸ List.all_eq_true.mp hr p hp).1

theorem ready_inputs {P : Program} {s : St} (d : DagRef)
    (hdf : d.isRec = false) (n : Node) (hns : Ord P n)
    (hr : ready P s d n = true) : InputsReady P s n := by
  intro e he hv
  -- readiness looks at the source itself, or for a switch with a recorded decision at the selected case
  have hmem : resolveSw P s e.u ∈ predsFor P s d n := by
    rw [predsFor_eq s hns.2 hdf, basePreds, hns.1]
    exact List.mem_map_of_mem (Graph.mem_preds.mpr ⟨e, he, hv, rfl⟩)
  have := ready_res hr hmem
  unfold resolveSw at this
  unfold SrcReady
  split
  · next hsu =>
    rw [if_pos hsu] at this
    cases hsc : s.sw e.u with
    | some lc => rw [hsc] at this; exact Or.inl ⟨lc.1, lc.2, rfl, this⟩
    | none => rw [hsc] at this; exact Or.inr this
  · next hsu => rw [if_neg hsu] at this; exact this

theorem ready_decider {P : Program} (hsw : OneP P) {s : St} (d : DagRef)
    (n : Node) (hns : P.g.isSwitch n = true) (hr : ready P s d n = true) : DeciderReady P s n := by
  intro e he hv hes
  -- a decision node is not a switch: readiness looks at the node itself
  refine ready_res hr ?_
  unfold predsFor
  simp only [hns, if_true, List.mem_map, List.mem_filter]
  exact ⟨e.u, ⟨e, ⟨he, by simp [hv, hes]⟩, rfl⟩, by simp [hsw.decPlain e he hes]⟩

/-- the sources the launched handler reads are those readiness looks at (`ready_inputs`, `ready_decider`) -/
theorem launchFrame_ok {P : Program} (hsw : OneP P) {s : St} {d : DagRef} (hfl : DagFl P d) {n : Node}
    (hdm : Lz s (Demanded P val n)) (hr : ready P s d n = true) : FrameOK P val s (launchFrame P d n) := by
  unfold launchFrame
  split
  · next hsn => exact ⟨hfl, hsn, hdm, ready_decider hsw d n hsn hr⟩
  · next hsn =>
    split
    · next hhd => exact ⟨hfl, hhd, hdm⟩
    · next hhd =>
      have ho : Ord P n := ⟨by simpa using hsn, by simpa using hhd⟩
      exact ⟨hfl, rfl, ho, hdm, ready_inputs d hfl.notRec n ho hr⟩

theorem eq_nil_or_singleton {α : Type} : ∀ {l : List α}, l.length ≤ 1 → l = [] ∨ ∃ a, l = [a]
  | [], _ => Or.inl rfl
  | [a], _ => Or.inr ⟨a, rfl⟩
  | _ :: _ :: _, h => absurd h (by simp)

theorem DagFl.of_reducedRef {P : Program} (hsw : OneP P) {s : St} {src dst : Node} {f2 f3 : Bool} {d : DagRef}
    (h : reducedRef P s src dst false f2 f3 = some d) (hone : f2 = true → HasHeads P) : DagFl P d := by
  obtain ⟨ns, hns, rfl⟩ := reducedRef_some hsw h
  exact ⟨rfl, hone, fun dn hdn y hy => by cases hdn; exact ⟨s, Graph.between_sound hns hy⟩⟩

theorem safe_dagWaitDest (x : Sec val c below s obs) {d : DagRef} (hd : DagFl c.P d) :
    Good c.P val (dagWaitDest c s obs d below) := by
  unfold dagWaitDest
  split
  · split
    · exact x.retTo _
    · exact Sec.block (x.push hd)
  · exact Sec.block (x.push hd)

theorem none_along_edge {P : Program} (hsw : OneP P) (hsol : SolutionOne P val) (hh : HasHeads P) {s : St} {a b : Node}
    (he : Graph.VEdge P.g (filteredView P s) a b) (ha : val a = none) : val b = none := by
  rcases vedge_cases hsw he with ⟨ho, hp⟩ | ⟨hH, e, hm, rfl, rfl, hc⟩ | ⟨hS, e, hm, rfl, rfl, h1⟩
  · exact hsol.none_of_pred ho (List.all_eq_false.mpr ⟨a, hp, by rw [ha]; simp⟩)
  · -- a source of a one-of head that is not a candidate is the input node, which has a value
    rcases hsw.headEdges e hm hH with h2 | h2
    · rw [hc] at h2; cases h2
    · have := hsol.input hh
      rw [← h2, ha] at this; cases this
  · -- the decision edge, which is the only one: no label, no case
    have hmem : e ∈ (P.g.edges.filter (fun e' => e'.v == e.v)).filter (·.isSwitch) := by
      simp [hm, h1]
    rw [hsol.sw e.v hS]
    unfold swSel switchLabelV
    rcases eq_nil_or_singleton (hsw.decUnique e.v) with hL | ⟨e1, hL⟩ <;> rw [hL] at hmem ⊢
    · cases hmem
    · rw [List.mem_singleton.mp hmem] at ha
      simp only [List.foldl_cons, List.foldl_nil, ha]
      rfl

theorem none_along_reach {P : Program} (hsw : OneP P) (hsol : SolutionOne P val) (hh : HasHeads P) {s : St} {a b : Node}
    (h : Graph.VReach P.g (filteredView P s) a b) : val a = none → val b = none := by
  induction h with
  | refl => exact id
  | tail _ he ih => exact fun ha => none_along_edge hsw hsol hh he (ih ha)

theorem safe_dagLaunch {d : DagRef} : ∀ (rest : List Node) {s : St} {obs : List Obs},
    Sec val c (.dagLaunch d rest :: below) s obs → Good c.P val (dagLaunch c d below s obs rest)
  | [], s, obs, x => by simp only [dagLaunch]; exact safe_dagWaitDest x.pop x.top.1
  | n :: rest, s, obs, x => by
    obtain ⟨hd, hdd, hrest⟩ := x.top
    simp only [dagLaunch]
    split
    · next hr =>
      split
      · next hcond =>
        -- a one-of DAG with a failed node: stop launching, wake the one-of; the destination, which cannot be computed
        -- any more, gets the error
        have key : ∀ {s1}, Sec val c below s1 obs → Good c.P val
            (retTo c (notify (notifyAll s1 ((c.P.g.desc1 n).map Key.node)) d.destKey) obs below .none) :=
          fun x1 => (x1.resched (.trans (.notifyAll ..) (.notify ..))).retTo _
        split
        · next dn hdn =>
          split
          · exact key x.pop
          · simp only [Bool.and_eq_true] at hcond
            obtain ⟨m, hm, hres⟩ := subgraphError_spec x.inv.data.resHid c.P hcond.2
            obtain ⟨hvm, hcause, hh⟩ := x.inv.data.excOK m _ hres
            obtain ⟨s0, hr0⟩ := hd.reach dn hdn m hm
            exact key ((x.pop.store (.exc (none_along_reach x.sw x.sol hh hr0 hvm) hcause hh)).resched (.notifyAll ..))
        · exact key x.pop
      · have hf := launchFrame_ok x.sw hd (hdd.imp₂ hrest fun h1 h2 => h1 n (h2 n (by simp))) hr
        have x1 := x.spawn hf (.node n)
        exact safe_dagLaunch rest (x1.pop.push ⟨hd, x1.top.2.1, x1.top.2.2.imp fun h m hm => h m (by simp [hm])⟩)
    · exact x.block

theorem safe_dagInit {d : DagRef} (x : Sec val c (.dagInit d :: below) s obs) : Good c.P val (dagInit c s obs d below) := by
  unfold dagInit
  simp only [refresh_of_nil x.inv.data.stale]
  have x1 : Sec val c (.dagInit d :: below) (s.noteOrder (validOrder c.P s d c.ord))
      (if validOrder c.P s d c.ord then obs ++ [.topo c.ord] else obs ++ [.topo c.ord] ++ [.badOracle]) :=
    { x.noteOrder _ with
      obs := .ite (x.obs.snoc (o := .topo _) trivial) ((x.obs.snoc (o := .topo _) trivial).snoc (o := .badOracle) trivial) }
  have hrest : Lz (s.noteOrder (validOrder c.P s d c.ord)) (∀ n ∈ c.ord, n ∈ d.nodes) := by
    cases hv : validOrder c.P s d c.ord with
    | true => exact Or.inr (validOrder_sub hv)
    | false => exact Or.inl rfl
  split
  · exact x1.pop.retTo _
  · exact safe_dagLaunch _ (x1.pop.push ⟨x1.top.1, x1.top.2, hrest⟩)

/-! ### `_run_oneof`, `_run_switch` -/

theorem switchLabel_cases {P : Program} (hsw : OneP P) {s : St} (hd : SData P val s) (n : Node) (hdr : DeciderReady P s n) :
    ((switchLabel P s n).isExc = false ∧ switchLabelV P val n = some (switchLabel P s n)) ∨
    (∃ x, switchLabel P s n = .exc x ∧ ErrCause P val x ∧ switchLabelV P val n = none) := by
  unfold switchLabel switchLabelV
  rcases eq_nil_or_singleton (hsw.decUnique n) with hL | ⟨e, hL⟩ <;> rw [hL]
  · exact Or.inl ⟨rfl, rfl⟩
  · have hmem : e ∈ (P.g.edges.filter (fun e => e.v == n)).filter (·.isSwitch) := by rw [hL]; simp
    simp only [List.mem_filter, beq_iff_eq] at hmem
    obtain ⟨w, hr⟩ := Option.isSome_iff_exists.mp (hdr e hmem.1.1 hmem.1.2 hmem.2)
    simp only [List.foldl_cons, List.foldl_nil]
    rw [get_visible hd.resHid, hr]
    rcases (hd.resOK hr).cases with ⟨hne, hv⟩ | ⟨x, rfl, hv, hc, -⟩
    · exact Or.inl ⟨hne, hv⟩
    · exact Or.inr ⟨x, rfl, hc, hv⟩

theorem switchSel_sem {P : Program} (hsw : OneP P) {s : St} (hd : SData P val s) {n : Node} (hS : P.g.isSwitch n = true)
    (hdr : DeciderReady P s n) :
    (switchSelect P s n = none → swSel P val n = none ∧ ErrCause P val (switchError P s n)) ∧
    (∀ l cn, switchSelect P s n = some (l, cn) → SwChoice P val n l cn) := by
  rcases switchLabel_cases hsw hd n hdr with ⟨hne, hv⟩ | ⟨x, hx, hc, hv⟩
  · -- the label is the semantic one, so the two lookups are the same; without a case: `SwitchNoCase`
    have hmap : swSel P val n = (switchSelect P s n).map (·.2) := by
      unfold swSel switchSelect
      rw [hv]
      cases switchLabel P s n <;> rfl
    refine ⟨fun h => ?_, fun l cn h => ⟨by rw [hv, (switchSelect_some h).1], (switchSelect_some h).2⟩⟩
    have hsel : swSel P val n = none := by rw [hmap, h]; rfl
    exact ⟨hsel, switchError_of_not_exc hne ▸ Or.inr (Or.inr (Or.inl ⟨n, hS, rfl, hsel⟩))⟩
  · -- the decision node failed inside a one-of scope: the switch fails with that error
    have hsel : swSel P val n = none := by rw [swSel, hv]
    refine ⟨fun _ => ⟨hsel, ?_⟩, fun l cn h => ?_⟩
    · rw [switchError, hx]; exact hc
    · rw [(switchSelect_some h).1] at hx; cases hx

theorem vreach_any {P : Program} {s s' : St} {a b : Node} (h : Graph.VReach P.g (filteredView P s) a b) :
    Graph.VReach P.g (filteredView P s') a b :=
  Graph.VReach.of_okEdge (w := filteredView P s) (w' := filteredView P s') rfl h

/-- **an error anywhere in the reduced DAG of a candidate means the candidate has no value** -/
theorem hasError_none {P : Program} (hsw : OneP P) (hsol : SolutionOne P val) {s : St} (hd : SData P val s)
    {sub : DagRef} {cand : Node} (hsub : SubOK P sub cand) (h : hasError s sub = true) : val cand = none := by
  obtain ⟨x, hx, e, hr⟩ := (hasError_visible hd.resHid sub).mp h
  obtain ⟨hv, -, hh⟩ := hd.excOK x e hr
  exact none_along_reach hsw hsol hh (hsub.reach x hx) hv

theorem SubOK.of_reducedRef {P : Program} (hsw : OneP P) {h cand : Node} (hh : P.g.isOneofHead h = true)
    (hc : cand ∈ cands P h) {s : St} (hopen : s.opened cand = true) {f3 : Bool} {sub : DagRef}
    (hsub : reducedRef P s P.g.input cand false true f3 = some sub) : SubOK P sub cand := by
  obtain ⟨hcn, hci, hcr⟩ := hsw.candReach h cand s hh hc hopen
  refine ⟨.of_reducedRef hsw hsub fun _ => ⟨h, hh⟩, ?_, fun y hy => vreach_any (reducedRef_reach hsw hsub y hy), ?_⟩
  all_goals obtain ⟨ns, hns, rfl⟩ := reducedRef_some hsw hsub
  · rfl
  · exact Graph.between_dst_mem hns hsw.inIn.1 rfl hcn rfl (Ne.symm hci) hcr

/-- what `_run_oneof` knows while the candidates `rest` of head `h` are still to be tried: the earlier ones have no value -/
def Tried (P : Program) (val : Node → Option Val) (h : Node) (rest : List Node) : Prop :=
  ∃ pre, cands P h = pre ++ rest ∧ ∀ y ∈ pre, val y = none

theorem Tried.next {P : Program} {h cand : Node} {rest : List Node} (t : Tried P val h (cand :: rest)) (hv : val cand = none) :
    Tried P val h rest := by
  obtain ⟨pre, hc, hpre⟩ := t
  refine ⟨pre ++ [cand], by rw [hc]; simp, fun y hy => ?_⟩
  rcases List.mem_append.mp hy with h1 | h1
  · exact hpre y h1
  · rw [List.mem_singleton.mp h1]; exact hv

theorem safe_oneofWin (x : Sec val c below s obs) {h cand : Node} (hh : c.P.g.isOneofHead h = true) {rest : List Node}
    (t : Tried c.P val h (cand :: rest)) {sub : DagRef} (hsub : SubOK c.P sub cand) (hne : ¬ hasError s sub = true)
    (hex : (s.exists cand && !(s.get cand).isRecur) = true) : Good c.P val (oneofWin c s obs h cand below) := by
  obtain ⟨pre, hc, hpre⟩ := t
  rw [exists_visible x.inv.data.resHid, Bool.and_eq_true, Option.isSome_iff_exists] at hex
  obtain ⟨⟨v, hr⟩, -⟩ := hex
  have hok := x.inv.data.resOK hr
  have hnx : v.isExc = false := by
    -- the candidate is a node of its own reduced DAG, which has no error
    rcases hok.cases with ⟨hne, -⟩ | ⟨e, rfl, -⟩
    · exact hne
    · exact absurd ((hasError_visible x.inv.data.resHid sub).mpr ⟨cand, hsub.mem, e, hr⟩) hne
  have hvh : val h = some v := by
    rw [x.sol.head h hh, hc, List.findSome?_append, List.findSome?_eq_none_iff.mpr hpre, List.findSome?_cons,
      hok.agree hnx]
    rfl
  unfold oneofWin
  rw [getHid_of_res hr]
  exact ((x.store (.value hvh ⟨hok.vals, hnx⟩ (x.sw.headPlain h hh))).resched
    (.trans (.trans (.notify ..) (.notifyAll ..)) (.notify ..))).retTo _

/-- `_run_oneof` woken at the wait for `cand`, given what trying the rest does: win, move on, or wait on -/
theorem safe_oneofWake {d : DagRef} {h cand : Node} {rest : List Node} {sub : DagRef}
    (x : Sec val c (.oneofWait d h cand rest sub :: below) s obs)
    (hTry : Tried c.P val h rest → Good c.P val (oneofTry c d h below s obs rest)) :
    Good c.P val (oneofWake c s obs d h cand rest sub below) := by
  obtain ⟨-, hh, -, (t : Tried c.P val h (cand :: rest)), hsub⟩ := x.top
  unfold oneofWake
  split
  · next hdone =>
    split
    · next herr => exact hTry (t.next (hasError_none x.sw x.sol x.inv.data hsub herr))
    · next herr => exact safe_oneofWin x.pop hh t hsub herr (by simpa [oneofDone, herr] using hdone)
  · exact x.block

theorem safe_oneofTry {d : DagRef} {h : Node} : ∀ (rest : List Node) {s : St} {obs : List Obs},
    Sec val c (.oneofStart d h :: below) s obs → Tried c.P val h rest → Good c.P val (oneofTry c d h below s obs rest)
  | [], s, obs, x, ⟨pre, hc, hpre⟩ => by
    obtain ⟨-, hh, -⟩ := x.top
    have hvh : val h = none := by
      rw [x.sol.head h hh, hc, List.append_nil]
      exact List.findSome?_eq_none_iff.mpr hpre
    simp only [oneofTry]
    split
    · -- nested: the head's failure is stored as its result
      exact x.pop.storeExc hvh (.oneofNoResult hh hvh) ⟨h, hh⟩
    · exact (x.pop.resched (.notify ..)).raise (.oneofNoResult hh hvh)
  | cand :: rest, s, obs, x, t => by
    obtain ⟨hd, hh, -⟩ := x.top
    simp only [oneofTry]
    have x1 := x.openCand true cand
    split
    · exact x1.pop.raise .notFound
    · next sub hsub =>
      rw [refresh_of_nil x1.inv.data.stale]
      have ⟨pre, hc, hpre⟩ := t
      have hsubok : SubOK c.P sub cand :=
        .of_reducedRef x.sw hh (by rw [hc]; simp) (by simp [openCand, upd]) hsub
      have hdd : Lz (openCand s true cand) (∀ n ∈ sub.nodes, Demanded c.P val n) :=
        x1.top.2.2.imp fun hD => Demanded.of_reducedRef x.sw hsub (.cand hD hh hc hpre)
      have x2 := x1.spawn (f0 := .dagInit sub) ⟨hsubok.fl, hdd⟩ .dag
      exact safe_oneofWake (x2.pop.push ⟨hd, hh, x2.top.2.2, t, hsubok⟩) (safe_oneofTry rest x2)

theorem safe_switchStart {d : DagRef} {n : Node} (x : Sec val c (.switchStart d n :: below) s obs) :
    Good c.P val (switchStart c s obs d n below) := by
  obtain ⟨hd, hsn, -, hdr⟩ := x.top
  obtain ⟨hnone, hsome⟩ := switchSel_sem x.sw x.inv.data hsn hdr
  unfold switchStart
  split
  · next hn =>
    obtain ⟨hsel, hcause⟩ := hnone hn
    dsimp only
    split
    · next hiso =>
      -- inside a one-of scope: the error is kept as the switch node's result
      exact x.pop.storeExc (by rw [x.sol.sw n hsn, hsel]; rfl) hcause (hd.one hiso)
    · exact (x.pop.resched (.notify ..)).raise hcause
  · next l cn hsel =>
    have hc : SwChoice c.P val n l cn := hsome l cn hsel
    have x2 := (x.setSw hc).openCand d.isOneof cn
    dsimp only
    split
    · exact x2.pop.raise .notFound
    · next sub hsub =>
      exact safe_dagInit ((x2.pop.push (f0 := .switchRet d n) hd).push ⟨.of_reducedRef x.sw hsub fun h1 => hd.one h1,
        x2.top.2.2.1.imp fun hS => Demanded.of_reducedRef x.sw hsub (.case hS hsn hc.sel)⟩)

/-! ### `chart.run` / `manager.run` -/

theorem safe_mgrReturn (x : Sec val c [] s obs) {o : Outcome} (ho : OutcomeOKSw c.P val o) :
    Good c.P val (mgrReturn c s obs o) := by
  have := (x.emit (o := .returned o) ho).finish (st := .done .ok) fun _ h => nomatch h
  exact ⟨this.1.setOutcome o ho, this.2⟩

theorem safe_mgrComplete (x : Sec val c [] s obs) {o : Outcome} (ho : OutcomeOKSw c.P val o) :
    Good c.P val (mgrComplete c s obs o) := by
  unfold mgrComplete
  have x1 := x.emit (o := .pcomplete o) ho
  split
  · exact safe_mgrReturn x ho
  · refine x1.cbCall (fun _ => ho) (safe_mgrReturn x1 ho) fun e he => ?_
    exact safe_mgrReturn (o := .raised e)
      { x1 with obs := .ite (x1.obs.snoc (o := .pcomplete (.error e)) (ErrCause.collab he)) x1.obs } (ErrCause.collab he)

theorem ErrsOK.taskErrors {P : Program} {s : St} (h : ErrsOK P val s) {e : Exc} (hm : e ∈ taskErrors s) :
    ErrCause P val e := by
  obtain ⟨i, tk, hi, hst⟩ := mem_taskErrors_iff.mp hm
  exact h i tk hi e hst

theorem safe_finishOutcome (x : Sec val c [] s obs) (hfin : (!(taskErrors s).isEmpty || s.exists c.P.g.output) = true) :
    OutcomeOKSw c.P val (finishOutcome c s) := by
  rcases finishOutcome_of_check c s hfin with ⟨e, hm, ho⟩ | ⟨w, hr, ho⟩ <;> rw [ho]
  · have hc : ErrCause c.P val e := x.inv.errs.taskErrors hm
    split <;> exact hc
  · rcases (x.inv.data.resOK hr).cases with ⟨hne, hv⟩ | ⟨e, rfl, -, -, hh⟩
    · exact ⟨fun _ => hv, fun hex => absurd hex (by rw [hne]; exact Bool.false_ne_true)⟩
    · exact ⟨fun hex => (nomatch hex), fun _ => hh⟩

theorem safe_mgrFinish (x : Sec val c [] s obs) (hfin : (!(taskErrors s).isEmpty || s.exists c.P.g.output) = true) :
    Good c.P val (mgrFinish c s obs) :=
  safe_mgrComplete (x.resched (.cancelTasks ..)) (safe_finishOutcome x hfin)

theorem safe_mgrCheck (x : Sec val c [] s obs) : Good c.P val (mgrCheck c s obs) := by
  rcases mgrCheck_cases c s obs with ⟨h, e⟩ | ⟨-, -, e⟩ <;> rw [e]
  · exact safe_mgrFinish x h
  · exact (x.push (f0 := .mgrWait) trivial).block

theorem safe_mgrBegin (x : Sec val c [] s obs) : Good c.P val (mgrBegin c s obs) := by
  unfold mgrBegin
  split
  · next hp =>
    exact safe_mgrComplete x (o := .error _) (Or.inr (Or.inr (Or.inr (Or.inr (Or.inl ⟨by simpa using hp, rfl⟩)))))
  · split
    · exact safe_mgrComplete x (o := .error _) ErrCause.notFound
    · next d hd =>
      exact safe_mgrCheck (x.spawn (f0 := .dagInit d)
        ⟨.of_reducedRef x.sw hd (fun h => nomatch h), Or.inr (Demanded.of_reducedRef x.sw hd .out)⟩ .run)

theorem safe_mgrStart (x : Sec val c [] s obs) : Good c.P val (mgrStart c s obs) :=
  have x1 := x.emit (o := .pstart) trivial
  x1.cbCall (fun _ => trivial) (safe_mgrBegin x1) fun _ he => safe_mgrReturn x1 (o := .raised _) (ErrCause.collab he)

theorem safe_deliverCancel (x : Sec val c [] s []) (tk : Task) : Good c.P val (deliverCancel c s tk) := by
  obtain ⟨s', r, h | h⟩ := deliverCancel_cases c s tk <;> rw [h]
  · exact (x.resched r).finish fun _ h => nomatch h
  · have := ((x.resched r).emit (o := .returned .cancelled) trivial).finish (st := .done .cancelled) fun _ h => nomatch h
    exact ⟨this.1.setOutcome _ trivial, this.2⟩

end MLPE.Eng
