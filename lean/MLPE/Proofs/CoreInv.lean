import MLPE.Proofs.Acts

/-! At-most-once per iteration: `CoreInv` — for every node, executions (`on_node_start`) ≤ hides + 1 — holds in every reachable
state of every program (`coreInv_reach`): of all the actions of a section (`Proofs/Acts.lean`, `Runs.post`) only three touch
the `Core`. -/
namespace MLPE.Eng
open MLPE

/-- per node: executions ≤ hides + 1, and an unprocessed node has used up none of its current credit -/
def CoreInv (k : Core) : Prop :=
  ∀ n, k.invCount n ≤ k.hideCount n + 1 ∧ ((k.proc n && !k.procHid n) = true ∨ k.invCount n ≤ k.hideCount n)

theorem CoreInv.unprocessed {s : St} (h : CoreInv s.core) {n : Node} (hp : s.procExists n = false) :
    s.invCount n ≤ s.hideCount n :=
  (h n).2.resolve_left fun h1 => Bool.false_ne_true (hp.symm.trans h1)

theorem coreInv_init : CoreInv init.core := by
  intro n; simp [init, St.core]

theorem coreInv_hide {s : St} (h : CoreInv s.core) (ns : List Node) : CoreInv (s.hide ns).core := by
  intro n
  have hn := h n
  simp only [St.core, St.hide] at hn ⊢
  by_cases hc : ns.contains n = true
  · simp only [hc, if_true]
    omega
  · simp only [hc]
    simpa using hn

theorem coreInv_refresh {s : St} (h : CoreInv s.core) (ns : List Node) : CoreInv (s.refresh ns).core := by
  rw [refresh_eq]
  exact coreInv_hide h _

/-- the processed check + mark of `_execute_node` -/
theorem coreInv_mark {s : St} (h : CoreInv s.core) (n : Node) (hp : s.procExists n = false) :
    CoreInv (s.markProcessed n).core := by
  intro m
  have hm := h m
  simp only [St.core, St.markProcessed] at hm ⊢
  by_cases hmn : m = n
  · subst hmn
    have hn := h.unprocessed hp
    simp
    omega
  · simp [upd, hmn]
    simpa using hm

theorem coreInv_act {c : Ctx} {x y : Conf} (a : Act c x y) (h : CoreInv x.s.core) : CoreInv y.s.core := by
  cases a with
  | resched r => rw [r.data]; exact h
  | silent e => rw [e.core]; exact h
  | refresh ns => exact coreInv_refresh h ns
  | forcedFirst | forcedNext => exact coreInv_hide h _
  | nodeStart hp => exact coreInv_mark h _ hp
  | _ => exact h

theorem coreInv_step (P : Program) (s : St) (ch : Choice) (out : Out) (h : CoreInv s.core)
    (hs : step P s ch = some out) : CoreInv out.1.core := by
  rcases step_cases hs with ⟨t, ord, pick, -, hst⟩ | ⟨hr, -⟩
  · obtain ⟨_, _, hr⟩ := stepTask_runs hst
    exact hr.post (Q := fun x => CoreInv x.s.core) (Post := fun out => CoreInv out.1.core)
      (fun _ _ a => by cases a with | engine a => exact coreInv_act a | _ => exact id)
      (fun _ _ _ _ hq => by rw [core_finish]; exact hq) (fun _ _ ho => ho) h
  · rw [hr.data]; exact h

theorem coreInv_reach {P : Program} {s : St} (h : Reach P s) : CoreInv s.core := by
  induction h with
  | init => exact coreInv_init
  | step _ hs ih => exact coreInv_step _ _ _ _ ih hs

end MLPE.Eng
