import MLPE.Builder
import Batteries.Data.List.Perm

/-! The worklist of `AnnotationDAGBuilder` visits exactly the nodes the output can reach, and the graph it builds
holds what each of them declares.  One induction over the loop (`traverse_spec`) carries all of it. -/
namespace MLPE.Builder

inductive Reachable (D : Decls) : Cls → Prop
  | out : Reachable D D.output
  | step {c c' : Cls} : Reachable D c → c' ∈ succs D c → Reachable D c'

/-- the iteration that visits `c` raises no error -/
def NodeOk (D : Decls) (c : Cls) : Prop :=
  validateNode (D.get c) = none ∧ ∃ ms, marksOf (D.get c) = .ok ms

/-- well-formed declaration set: class references are indices of declarations -/
def WF (D : Decls) : Prop :=
  D.output < D.ds.length ∧ D.input < D.ds.length ∧ ∀ c, c < D.ds.length → ∀ c' ∈ succs D c, c' < D.ds.length

theorem pushNew_cons (v s : List Cls) (c : Cls) (cs : List Cls) :
    pushNew v s (c :: cs) = if v.contains c then pushNew v s cs else pushNew (v ++ [c]) (s ++ [c]) cs := by
  unfold pushNew
  rw [List.foldl_cons]
  split <;> rfl

theorem pushNew_eq (cs : List Cls) : ∀ v s : List Cls, ∃ new,
    pushNew v s cs = (v ++ new, s ++ new) ∧ (∀ x, x ∈ new ↔ x ∈ cs ∧ x ∉ v) ∧ (v.Nodup → (v ++ new).Nodup) := by
  induction cs with
  | nil => intro v s; exact ⟨[], by simp [pushNew], by simp, by simp⟩
  | cons c cs ih =>
    intro v s
    rw [pushNew_cons]
    by_cases hc : c ∈ v
    · obtain ⟨new, he, hm, hn⟩ := ih v s
      refine ⟨new, by simp [hc, he], fun x => ?_, hn⟩
      rw [hm, List.mem_cons]
      exact ⟨fun h => ⟨Or.inr h.1, h.2⟩, fun h => ⟨h.1.resolve_left (fun e => h.2 (e ▸ hc)), h.2⟩⟩
    · obtain ⟨new, he, hm, hn⟩ := ih (v ++ [c]) (s ++ [c])
      refine ⟨c :: new, by simp [hc, he], fun x => ?_, fun hv => ?_⟩
      · simp only [List.mem_cons, hm, List.mem_append, List.not_mem_nil, or_false, not_or]
        constructor
        · rintro (rfl | ⟨h1, h2, _⟩)
          · exact ⟨Or.inl rfl, hc⟩
          · exact ⟨Or.inr h1, h2⟩
        · rintro ⟨h1 | h1, h2⟩
          · exact Or.inl h1
          · by_cases hx : x = c
            · exact Or.inl hx
            · exact Or.inr ⟨h1, h2, hx⟩
      · have := hn (List.nodup_append.mpr
          ⟨hv, by simp, fun a ha b hb => by simp at hb; subst hb; exact fun e => hc (e ▸ ha)⟩)
        simpa using this

structure LoopInv (D : Decls) (visited stack : List Cls) : Prop where
  out_mem   : D.output ∈ visited
  stack_sub : ∀ x ∈ stack, x ∈ visited
  closed    : ∀ x ∈ visited, x ∉ stack → ∀ y ∈ succs D x, y ∈ visited
  sound     : ∀ x ∈ visited, Reachable D x
  nodup     : visited.Nodup
  bounded   : ∀ x ∈ visited, x < D.ds.length

theorem loopInv_init (D : Decls) (h : WF D) : LoopInv D [D.output] [D.output] where
  out_mem := by simp
  stack_sub := by simp
  closed := by intro x hx hn; exact absurd hx hn
  sound := by intro x hx; simp at hx; subst hx; exact .out
  nodup := by simp
  bounded := by intro x hx; simp at hx; subst hx; exact h.1

/-- a node is *done* when it is visited and off the stack.  What is known of the done nodes survives an iteration:
the popped node `cur` is newly done, the others were done before (the pushed nodes `new` are on the stack). -/
theorem done_step {v s new : List Cls} {cur : Cls} {Q Q' : Cls → Prop} (h : ∀ x ∈ v, x ∉ s ++ [cur] → Q x)
    (hcur : Q' cur) (hmono : ∀ x, Q x → Q' x) : ∀ x ∈ v ++ new, x ∉ s ++ new → Q' x := by
  intro x hx hns
  simp only [List.mem_append, not_or] at hx hns
  by_cases hxc : x = cur
  · exact hxc ▸ hcur
  · exact hmono x (h x (hx.resolve_right hns.2) (by simp [hns.1, hxc]))

theorem LoopInv.step {D : Decls} (hwf : WF D) {v s new : List Cls} {cur : Cls} (hI : LoopInv D v (s ++ [cur]))
    (hnew : ∀ x, x ∈ new ↔ x ∈ succs D cur ∧ x ∉ v) (hnd : (v ++ new).Nodup) : LoopInv D (v ++ new) (s ++ new) := by
  have hcur : cur ∈ v := hI.stack_sub cur (by simp)
  have hsucc : ∀ y ∈ succs D cur, y ∈ v ++ new := fun y hy =>
    List.mem_append.mpr (Classical.or_iff_not_imp_left.mpr fun hv => (hnew y).mpr ⟨hy, hv⟩)
  refine ⟨List.mem_append_left _ hI.out_mem, ?_, ?_, ?_, hnd, ?_⟩
  · intro x hx
    exact (List.mem_append.mp hx).elim (fun h => List.mem_append_left _ (hI.stack_sub x (List.mem_append_left _ h)))
      (List.mem_append_right _)
  · exact done_step hI.closed hsucc fun x h y hy => List.mem_append_left _ (h y hy)
  · intro x hx
    exact (List.mem_append.mp hx).elim (hI.sound x) fun h => .step (hI.sound cur hcur) ((hnew x).mp h).1
  · intro x hx
    exact (List.mem_append.mp hx).elim (hI.bounded x) fun h => hwf.2.2 cur (hI.bounded cur hcur) x ((hnew x).mp h).1

theorem visited_length_le (D : Decls) {visited stack : List Cls} (hI : LoopInv D visited stack) :
    visited.length ≤ D.ds.length := by
  have hsub : visited ⊆ List.range D.ds.length := by
    intro x hx; exact List.mem_range.mpr (hI.bounded x hx)
  have := (List.subperm_of_subset hI.nodup hsub).length_le
  simpa using this

theorem closed_contains_reachable (D : Decls) {visited : List Cls} (hI : LoopInv D visited []) :
    ∀ c, Reachable D c → c ∈ visited := by
  intro c hr
  induction hr with
  | out => exact hI.out_mem
  | step _ hs ih => exact hI.closed _ ih (by simp) _ hs

theorem visitOne_ok {D : Decls} {g : G} {v s : List Cls} {cur : Cls} {r : G × List Cls × List Cls}
    (h : visitOne D g v cur s = .ok r) :
    NodeOk D cur ∧ r = (graphOf D g cur, (pushNew v s (succs D cur)).1, (pushNew v s (succs D cur)).2) := by
  unfold visitOne at h
  dsimp only at h
  split at h
  · cases h
  · next hv =>
    split at h
    · cases h
    · next ms hm => exact ⟨⟨hv, ms, hm⟩, by cases h; rfl⟩

theorem visitOne_error {D : Decls} {g : G} {v s : List Cls} {cur : Cls} {e : BuildErr}
    (h : visitOne D g v cur s = .error e) : validateNode (D.get cur) = some e ∨ marksOf (D.get cur) = .error e := by
  unfold visitOne at h
  dsimp only at h
  split at h
  · next hv => cases h; exact Or.inl hv
  · split at h
    · next hm => cases h; exact Or.inr hm
    · cases h

/-- **the induction over the worklist.**  `Q g x` is what is to be known of a node `x` in the graph `g` once `x` is
done: it holds of a node when it is popped and passes the checks, and later iterations keep it.  A successful
traversal ends with an empty stack and every visited node done; a failing one reports the defect of a reachable node.
The fuel suffices because `visited` is duplicate-free and bounded by the number of declarations. -/
theorem traverse_spec (D : Decls) (hwf : WF D) (Q : G → Cls → Prop)
    (hcur : ∀ g c, NodeOk D c → Q (graphOf D g c) c) (hmono : ∀ g c x, Q g x → Q (graphOf D g c) x) :
    ∀ (fuel : Nat) (g : G) (v s : List Cls), LoopInv D v s → D.ds.length + s.length < fuel + v.length →
      (∀ x ∈ v, x ∉ s → Q g x) →
      match traverse D fuel g v s with
      | .ok (g', v') => LoopInv D v' [] ∧ ∀ x ∈ v', Q g' x
      | .error e => ∃ c, Reachable D c ∧ (validateNode (D.get c) = some e ∨ marksOf (D.get c) = .error e) := by
  intro fuel
  induction fuel with
  | zero =>
    intro g v s hI hm _
    have := visited_length_le D hI
    omega
  | succ fuel ih =>
    intro g v s hI hm hQ
    rw [traverse]
    cases hl : s.getLast? with
    | none =>
      obtain rfl := List.getLast?_eq_none_iff.mp hl
      exact ⟨hI, fun x hx => hQ x hx List.not_mem_nil⟩
    | some cur =>
      obtain ⟨s, rfl⟩ := List.getLast?_eq_some_iff.mp hl
      dsimp only
      rw [List.dropLast_concat]
      cases hvis : visitOne D g v cur s with
      | error e => exact ⟨cur, hI.sound cur (hI.stack_sub cur (by simp)), visitOne_error hvis⟩
      | ok r =>
        obtain ⟨hok, rfl⟩ := visitOne_ok hvis
        obtain ⟨new, hp, hnew, hnd⟩ := pushNew_eq (succs D cur) v s
        dsimp only
        rw [hp]
        refine ih _ _ _ (hI.step hwf hnew (hnd hI.nodup)) ?_ (done_step hQ (hcur g cur hok) (hmono g cur))
        simp only [List.length_append, List.length_singleton] at hm ⊢
        omega

/-! ### what the graph accumulates

`addNode`, `addEdge` and `mapNode` are one update of an insertion-ordered association list, each on a field of its
own. -/

/-- networkx's `add_*`: update the value under an existing key, else append -/
def upsert {α β} [BEq α] (l : List (α × β)) (k : α) (f : β → β) (b : β) : List (α × β) :=
  if l.any (·.1 == k) then l.map fun (k', v) => if k' == k then (k', f v) else (k', v) else l ++ [(k, b)]

theorem mem_keys_upsert {α β} [BEq α] [LawfulBEq α] (l : List (α × β)) (k : α) (f : β → β) (b : β) (k' : α) :
    k' ∈ (upsert l k f b).map (·.1) ↔ k' ∈ l.map (·.1) ∨ k' = k := by
  unfold upsert
  split
  · next h =>
    have hk : k ∈ l.map (·.1) := by
      obtain ⟨x, hx, hxe⟩ := List.any_eq_true.mp h
      exact List.mem_map.mpr ⟨x, hx, eq_of_beq hxe⟩
    rw [List.map_map, List.map_congr_left (g := (·.1)) fun x _ => by dsimp only [Function.comp]; split <;> rfl]
    exact ⟨Or.inl, fun h' => h'.elim id (· ▸ hk)⟩
  · simp [List.map_append]

theorem mem_upsert_const {α β} [BEq α] [LawfulBEq α] {l : List (α × β)} {k : α} {c : β} {x : α × β}
    (h : x ∈ upsert l k (fun _ => c) c) : x ∈ l ∨ x = (k, c) := by
  unfold upsert at h
  split at h
  · obtain ⟨y, hy, rfl⟩ := List.mem_map.mp h
    dsimp only
    split
    · next he => exact Or.inr (by rw [eq_of_beq he])
    · exact Or.inl hy
  · simpa using h

theorem addNode_eq (g : G) (id : String) (a : NodeAttrs) :
    g.addNode id a = { g with nodes := upsert g.nodes id (·.merge a) a } := by
  unfold G.addNode upsert; split <;> rfl

theorem mapNode_eq (g : G) (id : String) (c : Cls) :
    g.mapNode id c = { g with nodeMap := upsert g.nodeMap id (fun _ => c) c } := by
  unfold G.mapNode upsert; split <;> rfl

theorem addEdge_eq (g : G) (u v : String) (a : EdgeAttrs) :
    g.addEdge u v a = { (g.addNode u).addNode v with edges := upsert g.edges (u, v) (·.merge a) a } := by
  unfold G.addEdge upsert; simp only [addNode_eq]; split <;> rfl

def keysE (g : G) : List (String × String) := g.edges.map (·.1)
def keysM (g : G) : List String := g.nodeMap.map (·.1)
def keysN (g : G) : List String := g.nodes.map (·.1)

theorem mem_keysE_addEdge (g : G) (u v : String) (a : EdgeAttrs) (k : String × String) :
    k ∈ keysE (g.addEdge u v a) ↔ k ∈ keysE g ∨ k = (u, v) := by
  rw [addEdge_eq]; exact mem_keys_upsert g.edges (u, v) (·.merge a) a k

theorem mem_keysM_mapNode (g : G) (id : String) (c : Cls) (k : String) :
    k ∈ keysM (g.mapNode id c) ↔ k ∈ keysM g ∨ k = id := by
  rw [mapNode_eq]; exact mem_keys_upsert g.nodeMap id (fun _ => c) c k

theorem addEdge_mem (g : G) (u v : String) (a : EdgeAttrs) : (u, v) ∈ keysE (g.addEdge u v a) :=
  (mem_keysE_addEdge g u v a _).mpr (Or.inr rfl)

theorem mapNode_mem (g : G) (id : String) (c : Cls) : id ∈ keysM (g.mapNode id c) :=
  (mem_keysM_mapNode g id c _).mpr (Or.inr rfl)

structure Ext (D : Decls) (g g' : G) : Prop where
  edges : ∀ k ∈ keysE g, k ∈ keysE g'
  nmap  : ∀ k ∈ keysM g, k ∈ keysM g'
  recs  : ∀ p ∈ g.recs, p ∈ g'.recs
  mapOK : ∀ kc ∈ g'.nodeMap, kc ∈ g.nodeMap ∨ kc.1 = D.id kc.2

variable {D : Decls}

theorem Ext.refl (g : G) : Ext D g g := ⟨fun _ h => h, fun _ h => h, fun _ h => h, fun _ h => Or.inl h⟩

theorem Ext.trans {a b c : G} (h1 : Ext D a b) (h2 : Ext D b c) : Ext D a c :=
  ⟨fun k h => h2.edges k (h1.edges k h), fun k h => h2.nmap k (h1.nmap k h), fun k h => h2.recs k (h1.recs k h),
   fun kc h => (h2.mapOK kc h).elim (h1.mapOK kc) Or.inr⟩

theorem addNode_ext (g : G) (id : String) (a : NodeAttrs) : Ext D g (g.addNode id a) := by
  rw [addNode_eq]; exact ⟨fun _ h => h, fun _ h => h, fun _ h => h, fun _ h => Or.inl h⟩

theorem addEdge_ext (g : G) (u v : String) (a : EdgeAttrs) : Ext D g (g.addEdge u v a) := by
  rw [addEdge_eq, addNode_eq, addNode_eq]
  exact ⟨fun k h => (mem_keys_upsert g.edges (u, v) (·.merge a) a k).mpr (Or.inl h), fun _ h => h, fun _ h => h,
    fun _ h => Or.inl h⟩

theorem mapNode_ext (g : G) (c : Cls) : Ext D g (g.mapNode (D.id c) c) := by
  rw [mapNode_eq]
  exact ⟨fun _ h => h, fun k h => (mem_keys_upsert g.nodeMap (D.id c) (fun _ => c) c k).mpr (Or.inl h), fun _ h => h,
    fun kc h => (mem_upsert_const h).imp id fun e => by rw [e]⟩

theorem recs_ext (g : G) (p : String × String) : Ext D g (g.addRec p) :=
  ⟨fun _ h => h, fun _ h => h, fun _ h => List.mem_append_left _ h, fun _ h => Or.inl h⟩

theorem synth_ext (g : G) (p : String) : Ext D g (g.addSynth p) :=
  ⟨fun _ h => h, fun _ h => h, fun _ h => h, fun _ h => Or.inl h⟩

theorem addCase_ext (sw : String) (g : G) (lc : String × Cls) : Ext D g (addCase D sw g lc) :=
  (mapNode_ext _ _).trans (addEdge_ext _ _ _ _)

theorem addCand_ext (syn : String) (g : G) (c : Cls) : Ext D g (addCand D syn g c) :=
  (mapNode_ext _ _).trans ((addNode_ext _ _ _).trans (addEdge_ext _ _ _ _))

theorem foldl_ext {α} (f : G → α → G) (hf : ∀ g a, Ext D g (f g a)) (l : List α) (g : G) : Ext D g (l.foldl f g) := by
  induction l generalizing g with
  | nil => exact Ext.refl g
  | cons a l ih => exact (hf g a).trans (ih (f g a))

theorem foldl_all {α} (f : G → α → G) (hf : ∀ g a, Ext D g (f g a)) (P : α → G → Prop)
    (hP : ∀ g a, P a (f g a)) (hmono : ∀ a g g', Ext D g g' → P a g → P a g')
    (l : List α) (g : G) : ∀ a ∈ l, P a (l.foldl f g) := by
  induction l generalizing g with
  | nil => intro a h; simp at h
  | cons b l ih =>
    intro a ha
    rcases List.mem_cons.mp ha with rfl | h
    · exact hmono _ _ _ (foldl_ext f hf l (f g a)) (hP g a)
    · exact ih (f g b) a h

def MapOK (D : Decls) (g : G) : Prop := ∀ kc ∈ g.nodeMap, kc.1 = D.id kc.2

theorem MapOK.ext {g g' : G} (h : MapOK D g) (hg : Ext D g g') : MapOK D g' :=
  fun kc hkc => (hg.mapOK kc hkc).elim (h kc) id

/-- the dependencies one mark of node `cur` declares are present in `g` -/
def MarkIn (D : Decls) (g : G) (cur : Cls) : Mark → Prop
  | .input src => (D.id src, D.id cur) ∈ keysE g ∧ D.id src ∈ keysM g
  | .recurrent start dest _ =>
    (D.id dest, D.id cur) ∈ keysE g ∧ (D.id start, D.id dest) ∈ g.recs ∧ D.id dest ∈ keysM g
  | .switch dec cases name =>
    (D.id dec, s!"switch__{name}") ∈ keysE g ∧ (s!"switch__{name}", D.id cur) ∈ keysE g ∧
    (∀ lc ∈ cases, (D.id lc.2, s!"switch__{name}") ∈ keysE g ∧ D.id lc.2 ∈ keysM g) ∧ D.id dec ∈ keysM g
  | .oneOf cands =>
    ∃ idx : Nat, (s!"input_one_of__{idx}___{D.id cur}", D.id cur) ∈ keysE g ∧
      (D.id D.input, s!"input_one_of__{idx}___{D.id cur}") ∈ keysE g ∧
      ∀ c ∈ cands, (D.id c, s!"input_one_of__{idx}___{D.id cur}") ∈ keysE g ∧ D.id c ∈ keysM g
  | .generic _ => True

theorem MarkIn.mono {g g' : G} (h : Ext D g g') {cur : Cls} {m : Mark} (hm : MarkIn D g cur m) :
    MarkIn D g' cur m := by
  cases m with
  | input src => exact ⟨h.edges _ hm.1, h.nmap _ hm.2⟩
  | recurrent s d k => exact ⟨h.edges _ hm.1, h.recs _ hm.2.1, h.nmap _ hm.2.2⟩
  | switch dec cases name =>
    exact ⟨h.edges _ hm.1, h.edges _ hm.2.1,
      fun lc hlc => ⟨h.edges _ (hm.2.2.1 lc hlc).1, h.nmap _ (hm.2.2.1 lc hlc).2⟩, h.nmap _ hm.2.2.2⟩
  | oneOf cands =>
    obtain ⟨idx, h1, h2, h3⟩ := hm
    exact ⟨idx, h.edges _ h1, h.edges _ h2, fun c hc => ⟨h.edges _ (h3 c hc).1, h.nmap _ (h3 c hc).2⟩⟩
  | generic _ => trivial

theorem applyMark_ext (g : G) (cur : Cls) (idx : Nat) (kw : String) (m : Mark) :
    Ext D g (applyMark D g cur idx kw m) := by
  cases m with
  | input src => exact (mapNode_ext _ _).trans (addEdge_ext _ _ _ _)
  | generic _ => exact Ext.refl g
  | recurrent s d k =>
    exact (mapNode_ext _ _).trans ((addNode_ext _ _ _).trans ((addEdge_ext _ _ _ _).trans (recs_ext _ _)))
  | switch dec cases name =>
    exact (mapNode_ext _ _).trans ((addNode_ext _ _ _).trans ((addEdge_ext _ _ _ _).trans
      ((foldl_ext _ (addCase_ext _) cases _).trans ((addEdge_ext _ _ _ _).trans (synth_ext _ _)))))
  | oneOf cands =>
    exact (addNode_ext _ _ _).trans ((addEdge_ext _ _ _ _).trans
      ((foldl_ext _ (addCand_ext _) cands _).trans ((synth_ext _ _).trans (addEdge_ext _ _ _ _))))

theorem applyMark_markIn (g : G) (cur : Cls) (idx : Nat) (kw : String) (m : Mark) :
    MarkIn D (applyMark D g cur idx kw m) cur m := by
  cases m with
  | generic _ => trivial
  | input src => exact ⟨addEdge_mem _ _ _ _, (addEdge_ext (D := D) _ _ _ _).nmap _ (mapNode_mem _ _ _)⟩
  | recurrent s d k =>
    refine ⟨(recs_ext (D := D) _ _).edges _ (addEdge_mem _ _ _ _), List.mem_append_right _ (List.mem_singleton_self _), ?_⟩
    exact ((addNode_ext (D := D) _ _ _).trans ((addEdge_ext _ _ _ _).trans (recs_ext _ _))).nmap _ (mapNode_mem _ _ _)
  | switch dec cases name =>
    have hfold := fun g => foldl_ext (D := D) _ (addCase_ext s!"switch__{name}") cases g
    have htail : ∀ g', Ext D g' ((g'.addEdge s!"switch__{name}" (D.id cur) { kwarg := some kw }).addSynth
        s!"switch__{name}") := fun g' => (addEdge_ext _ _ _ _).trans (synth_ext _ _)
    refine ⟨((hfold _).trans (htail _)).edges _ (addEdge_mem _ _ _ _), (synth_ext (D := D) _ _).edges _ (addEdge_mem _ _ _ _),
      fun lc hlc => ?_, ?_⟩
    · exact (foldl_all (D := D) _ (addCase_ext s!"switch__{name}")
        (fun lc g' => (D.id lc.2, s!"switch__{name}") ∈ keysE g' ∧ D.id lc.2 ∈ keysM g')
        (fun g' lc => ⟨addEdge_mem _ _ _ _, (addEdge_ext (D := D) _ _ _ _).nmap _ (mapNode_mem _ _ _)⟩)
        (fun lc g1 g2 he hp => ⟨he.edges _ hp.1, he.nmap _ hp.2⟩) cases _ lc hlc).imp
        ((htail _).edges _) ((htail _).nmap _)
    · exact (((addNode_ext (D := D) _ _ _).trans (addEdge_ext _ _ _ _)).trans ((hfold _).trans (htail _))).nmap _
        (mapNode_mem _ _ _)
  | oneOf cands =>
    have hfold := fun g => foldl_ext (D := D) _ (addCand_ext s!"input_one_of__{idx}___{D.id cur}") cands g
    have htail : ∀ g', Ext D g' ((g'.addSynth s!"input_one_of__{idx}___{D.id cur}").addEdge
        s!"input_one_of__{idx}___{D.id cur}" (D.id cur) { kwarg := some kw }) :=
      fun g' => (synth_ext _ _).trans (addEdge_ext _ _ _ _)
    refine ⟨idx, addEdge_mem _ _ _ _, ((hfold _).trans (htail _)).edges _ (addEdge_mem _ _ _ _), fun c hc => ?_⟩
    exact (foldl_all (D := D) _ (addCand_ext s!"input_one_of__{idx}___{D.id cur}")
      (fun c g' => (D.id c, s!"input_one_of__{idx}___{D.id cur}") ∈ keysE g' ∧ D.id c ∈ keysM g')
      (fun g' c => ⟨addEdge_mem _ _ _ _,
        ((addNode_ext (D := D) _ _ _).trans (addEdge_ext _ _ _ _)).nmap _ (mapNode_mem _ _ _)⟩)
      (fun c g1 g2 he hp => ⟨he.edges _ hp.1, he.nmap _ hp.2⟩) cands _ c hc).imp
      ((htail _).edges _) ((htail _).nmap _)

theorem marks_fold (cur : Cls) : ∀ (l : List (String × Mark)) (g : G) (i : Nat),
    Ext D g (l.foldl (fun (acc : G × Nat) (km : String × Mark) =>
      (applyMark D acc.1 cur acc.2 km.1 km.2, acc.2 + 1)) (g, i)).1 ∧
    ∀ km ∈ l, MarkIn D (l.foldl (fun (acc : G × Nat) (km : String × Mark) =>
      (applyMark D acc.1 cur acc.2 km.1 km.2, acc.2 + 1)) (g, i)).1 cur km.2 := by
  intro l
  induction l with
  | nil => intro g i; exact ⟨Ext.refl g, by simp⟩
  | cons km l ih =>
    intro g i
    obtain ⟨h1, h2⟩ := ih (applyMark D g cur i km.1 km.2) (i + 1)
    refine ⟨(applyMark_ext g cur i km.1 km.2).trans h1, fun km' hkm' => ?_⟩
    rcases List.mem_cons.mp hkm' with rfl | h
    · exact MarkIn.mono h1 (applyMark_markIn g cur i km'.1 km'.2)
    · exact h2 km' h

structure Contributed (D : Decls) (g : G) (cur : Cls) : Prop where
  mapped   : D.id cur ∈ keysM g
  marks    : ∀ km ∈ (D.get cur).marks, MarkIn D g cur km.2
  implicit : (D.get cur).marks = [] → cur ≠ D.input → (D.id D.input, D.id cur) ∈ keysE g

theorem Contributed.mono {g g' : G} (h : Ext D g g') {c : Cls} (hc : Contributed D g c) : Contributed D g' c :=
  ⟨h.nmap _ hc.mapped, fun km hkm => MarkIn.mono h (hc.marks km hkm), fun h1 h2 => h.edges _ (hc.implicit h1 h2)⟩

theorem graphOf_ext (g : G) (cur : Cls) : Ext D g (graphOf D g cur) := by
  unfold graphOf
  refine Ext.trans ?_ (marks_fold cur _ _ 0).1
  split
  · exact (mapNode_ext _ _).trans (addEdge_ext _ _ _ _)
  · exact mapNode_ext _ _

theorem graphOf_contributed (g : G) (cur : Cls) : Contributed D (graphOf D g cur) cur := by
  unfold graphOf
  refine ⟨(marks_fold cur _ _ 0).1.nmap _ ?_, (marks_fold cur _ _ 0).2, fun hm hne => (marks_fold cur _ _ 0).1.edges _ ?_⟩
  · split
    · exact (addEdge_ext (D := D) _ _ _ _).nmap _ (mapNode_mem _ _ _)
    · exact mapNode_mem _ _ _
  · have hc : ((D.get cur).marks.isEmpty && cur != D.input) = true := by simp [hm, hne]
    simp only [hc, if_true]
    exact addEdge_mem _ _ _ _

theorem traverse_ext : ∀ (fuel : Nat) (g : G) (v s : List Cls) (g' : G) (v' : List Cls),
    traverse D fuel g v s = .ok (g', v') → Ext D g g' := by
  intro fuel
  induction fuel with
  | zero => intro g v s g' v' h; cases h; exact Ext.refl g
  | succ fuel ih =>
    intro g v s g' v' h
    rw [traverse] at h
    split at h
    · cases h; exact Ext.refl g
    · split at h
      · cases h
      · next hvis =>
        obtain ⟨_, hr⟩ := visitOne_ok hvis
        cases hr
        exact (graphOf_ext g _).trans (ih _ _ _ _ _ h)

theorem traverse_output (D : Decls) (hwf : WF D) (g0 : G) :
    match traverse D (D.ds.length + 1) g0 [D.output] [D.output] with
    | .ok (g, v) => (∀ c, c ∈ v ↔ Reachable D c) ∧ ∀ c, Reachable D c → NodeOk D c ∧ Contributed D g c
    | .error e => ∃ c, Reachable D c ∧ (validateNode (D.get c) = some e ∨ marksOf (D.get c) = .error e) := by
  have := traverse_spec D hwf (fun g x => NodeOk D x ∧ Contributed D g x)
    (fun g c h => ⟨h, graphOf_contributed g c⟩) (fun g c x h => ⟨h.1, h.2.mono (graphOf_ext g c)⟩)
    (D.ds.length + 1) g0 _ _ (loopInv_init D hwf) (by simp) (fun x hx hn => absurd hx hn)
  split at this
  · next g v _ =>
    exact ⟨fun c => ⟨this.1.sound c, closed_contains_reachable D this.1 c⟩,
      fun c hc => this.2 c (closed_contains_reachable D this.1 c hc)⟩
  · exact this

/-- **completeness and soundness of the traversal**: if every reachable declaration passes the per-node checks, the
traversal succeeds and has visited exactly the reachable nodes -/
theorem traverse_visits_reachable (D : Decls) (hwf : WF D) (hok : ∀ c, Reachable D c → NodeOk D c) :
    ∃ g visited, traverse D (D.ds.length + 1) (({} : G).mapNode (D.id D.input) D.input) [D.output] [D.output] = .ok (g, visited) ∧
      ∀ c, c ∈ visited ↔ Reachable D c := by
  have := traverse_output D hwf (({} : G).mapNode (D.id D.input) D.input)
  split at this
  · next g v h => exact ⟨g, v, h, this.1⟩
  · obtain ⟨c, hr, hd⟩ := this
    obtain ⟨hv, ms, hm⟩ := hok c hr
    rw [hv, hm] at hd
    exact hd.elim nofun nofun

/-! ### `build` that succeeds -/

theorem build_ok_traverse {D : Decls} {b : Built} (h : build D = .ok b) :
    ∃ visited, traverse D (D.ds.length + 1) (({} : G).mapNode (D.id D.input) D.input) [D.output] [D.output]
      = .ok (b.g, visited) ∧ postValidate D b.g = none := by
  unfold build at h
  dsimp only at h
  split at h
  · cases h
  · next g v ht =>
    split at h
    · cases h
    · next hp => cases h; exact ⟨v, ht, hp⟩

theorem build_ok_reachable {D : Decls} (hwf : WF D) {b : Built} (hb : build D = .ok b) {c : Cls}
    (hr : Reachable D c) : NodeOk D c ∧ Contributed D b.g c := by
  obtain ⟨v, ht, _⟩ := build_ok_traverse hb
  have := traverse_output D hwf (({} : G).mapNode (D.id D.input) D.input)
  rw [ht] at this
  exact this.2 c hr

theorem build_ok_mapOK {D : Decls} {b : Built} (hb : build D = .ok b) : MapOK D b.g := by
  obtain ⟨v, ht, _⟩ := build_ok_traverse hb
  exact MapOK.ext (g := {}) nofun ((mapNode_ext _ _).trans (traverse_ext _ _ _ _ _ _ ht))

end MLPE.Builder
