/-
  Shared vocabulary of the engine models: values, exceptions, the built graph
  (what `build_dag` returns), node configuration, programs.
  No Mathlib imports (linked into the native driver).
-/
namespace MLPE

abbrev Node := Nat
abbrev Label := String

/-- pointwise update of a total map -/
def upd {α β : Type} [DecidableEq α] (f : α → β) (a : α) (b : β) : α → β :=
  fun x => if x = a then b else f x

@[simp] theorem upd_same {α β : Type} [DecidableEq α] (f : α → β) (a : α) (b : β) : upd f a b a = b := by
  simp [upd]

@[simp] theorem upd_other {α β : Type} [DecidableEq α] (f : α → β) (a x : α) (b : β) (h : x ≠ a) :
    upd f a b x = f x := by
  simp [upd, h]

theorem upd_of_eq {α β : Type} [DecidableEq α] {f : α → β} {x : α} {b : β} (h : f x = b) (a : α) : upd f a b x = b := by
  unfold upd
  split
  · rfl
  · exact h

/-- identity of an exception instance: class, raising node, invocation, attempt.
Engine-made errors use the classes `OneOfNoResult` / `RecNoResult` / `SwitchNoCase` (node = the
synthetic / destination node) and `Other:<PythonClass>` for lookup errors inside the engine. -/
structure Exc where
  cls  : String
  node : Nat
  inv  : Nat
  att  : Nat
  deriving DecidableEq, Repr, Inhabited

/-- node values: provenance strings, falsy constants, `None`, and the two things that must never
reach a consumer — exception objects (stored as results inside one-of scopes) and `Recurrent`. -/
inductive Val
  | none
  | str (s : String)
  | int (i : Int)
  | exc (e : Exc)
  | recur (d : Val)
  deriving DecidableEq, Repr, Inhabited

def Val.isRecur : Val → Bool
  | .recur _ => true
  | _ => false

def Val.isExc : Val → Bool
  | .exc _ => true
  | _ => false

abbrev Kwargs := List (String × Val)

inductive BodyOutcome
  | ret (v : Val)
  | raise (e : Exc)
  deriving DecidableEq, Repr, Inhabited

/-- the exception class tree of the generated programs:
`E0 <: Exception`, `E1 <: E0`, `E2 <: Exception`, `B0 <: BaseException`; `Cancelled` is
`asyncio.CancelledError` (a `BaseException`); every engine-made error is an `Exception`. -/
def isSub (c p : String) : Bool :=
  c == p || (c == "E1" && p == "E0") ||
  (p == "Exception" && c != "B0" && c != "Cancelled") || p == "BaseException"

def Exc.isException (e : Exc) : Bool := isSub e.cls "Exception"

inductive Mode | coro | inline | thread | process
  deriving DecidableEq, Repr, Inhabited

/-- retry / default / execution-mode settings of one node (RetryProtocol + TagProtocol) -/
structure NodeCfg where
  name       : String := ""
  attempts   : Option Nat := none
  delay      : Option Nat := none
  exceptions : Option (List String) := none
  useDefault : Bool := false
  mode       : Mode := .coro
  deriving Repr, Inhabited

/-- `NodeRetryPolicy.attempts`: `node.attempts or 1` -/
def NodeCfg.attemptsEff (c : NodeCfg) : Nat :=
  match c.attempts with
  | some 0 => 1
  | some k => k
  | none => 1

/-- `NodeRetryPolicy.delay`: `node.delay or 0` -/
def NodeCfg.delayEff (c : NodeCfg) : Nat := c.delay.getD 0

/-- `except retry_policy.exceptions`: `node.exceptions or (Exception,)` -/
def NodeCfg.retryable (c : NodeCfg) (e : Exc) : Bool :=
  match c.exceptions with
  | none => e.isException
  | some [] => e.isException
  | some l => l.any (isSub e.cls)

structure Edge where
  u        : Node
  v        : Node
  kwarg    : Option String := none
  isSwitch : Bool := false
  case     : Option Label := none
  deriving DecidableEq, Repr, Inhabited

structure NodeAttr where
  isSwitch     : Bool := false
  isOneofHead  : Bool := false
  oneofNodes   : List Node := []
  isOneofChild : Bool := false
  startNode    : Option Node := none
  maxIter      : Option Nat := none
  inMap        : Bool := true
  deriving Repr, Inhabited

/-- the DAG as built by `build_dag` (networkx graph + attributes) -/
structure Graph where
  nodes  : List Node
  edges  : List Edge
  attr   : Node → NodeAttr
  input  : Node
  output : Node
  /-- the order in which the builder added the nodes to the graph (`dag.graph.nodes`): the one deterministic node order
  the engine has (the node sets of sub-DAGs are Python sets) -/
  order  : List Node := []

namespace Graph

def preds (g : Graph) (n : Node) : List Node := (g.edges.filter (·.v == n)).map (·.u)

theorem mem_preds {g : Graph} {n p : Node} : p ∈ g.preds n ↔ ∃ e ∈ g.edges, e.v = n ∧ e.u = p := by
  simp only [preds, List.mem_map, List.mem_filter, beq_iff_eq, and_assoc]

def succs (g : Graph) (n : Node) : List Node := (g.edges.filter (·.u == n)).map (·.v)
def isSwitch (g : Graph) (n : Node) : Bool := (g.attr n).isSwitch
def isOneofHead (g : Graph) (n : Node) : Bool := (g.attr n).isOneofHead

/-- `__get_descendants`: distance-1 successors in the unfiltered graph; a switch successor is
passed through (recursively). Fuel = number of nodes (the graph is acyclic). -/
def desc1Fuel (g : Graph) : Nat → Node → List Node
  | 0, _ => []
  | fuel + 1, n =>
    let ds := g.succs n
    ds ++ (ds.filter g.isSwitch).flatMap (desc1Fuel g fuel)

def desc1 (g : Graph) (n : Node) : List Node := desc1Fuel g g.nodes.length n

/-- a view: `nx.subgraph_view` with a node filter and an edge filter -/
structure View where
  okNode : Node → Bool
  okEdge : Edge → Bool

def View.full : View := ⟨fun _ => true, fun _ => true⟩

def vnodes (g : Graph) (w : View) : List Node := g.nodes.filter w.okNode

def vsuccs (g : Graph) (w : View) (n : Node) : List Node :=
  (g.edges.filter (fun e => e.u == n && w.okEdge e && w.okNode e.u && w.okNode e.v)).map (·.v)

def expand (g : Graph) (w : View) (S : List Node) : List Node :=
  (S.flatMap (g.vsuccs w)).foldl (fun acc x => if acc.contains x then acc else acc ++ [x]) S

def reachFuel (g : Graph) (w : View) : Nat → List Node → List Node
  | 0, S => S
  | f + 1, S => reachFuel g w f (g.expand w S)

/-- nodes reachable from `a` in the view (including `a`) -/
def reachSet (g : Graph) (w : View) (a : Node) : List Node := g.reachFuel w g.nodes.length [a]

/-- node set of `all_simple_paths(view, s, d)`; `none` = networkx raises `NodeNotFound`.
A source that is not visible raises; a target that is not visible does **not** (node ids are strings, and
networkx then reads the id as a set of single-character targets): the path set is simply empty. -/
def between (g : Graph) (w : View) (s d : Node) : Option (List Node) :=
  if !(g.nodes.contains s && w.okNode s) then none
  else if !(g.nodes.contains d && w.okNode d) then some []
  else if s == d then some [s]
  else
    let fromS := g.reachSet w s
    some ((g.vnodes w).filter (fun v => fromS.contains v && (g.reachSet w v).contains d))

end Graph

/-- the calls the engine makes into user-supplied collaborators (event managers, artifact store) -/
inductive Cb | nstart | ncomplete | save | pstart | pcomplete
  deriving DecidableEq, Repr, Inhabited

/-- a program: built graph + per-node configuration + node behaviour.
`body n kwargs inv att` is the outcome of the `att`-th attempt of the `inv`-th invocation (per run)
of node `n` on `kwargs`; `dflt` is `get_default(**kwargs)`. Theorems quantify over arbitrary such
functions; the driver instantiates them from the generated spec. -/
structure Program where
  g       : Graph
  cfg     : Node → NodeCfg
  body    : Node → Kwargs → Nat → Nat → BodyOutcome
  dflt    : Node → Kwargs → Val
  inputKw : Kwargs
  poolsOk : Bool := true      -- pools needed by the DAG are registered and alive (`DAG._validate_pool_executors`)
  /-- how many times the collaborators suspend (bare `await asyncio.sleep(0)`) inside the given callback -/
  cbYield : Cb → Node → Nat := fun _ _ => 0
  /-- a collaborator that fails: the given callback raises this exception (every time, before suspending) -/
  cbRaise : Cb → Node → Option Exc := fun _ _ => none
  /-- a `get_default` that fails: it raises this exception (every time it is called) instead of returning a value -/
  dfltRaise : Node → Option Exc := fun _ => none

end MLPE
