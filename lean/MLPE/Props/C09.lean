import MLPE.Props.C01
import MLPE.Proofs.SafeDemo

/-!
# C09 — switch-case runs exactly the selected branch and routes its value

General facts of the engine model (every program, every state):
* `_run_switch` selects the case whose label equals the *stored result of the decision node* and records it;
  a label that matches no case fails the switch task with `SwitchNoCase` after waking `run()`
  (`C09_selects_case_of_returned_label`, `C09_unknown_label_fails`);
* the consumer's keyword argument for a switch parameter is the stored result of the recorded case
  (`C09_consumer_gets_selected_case_value`);
* case edges are invisible in every reduced DAG, so a case node is part of a DAG only through the switch that
  selected it or through another declared dependency (`C09_case_edges_filtered`): non-selected cases are not
  launched by the switch (laziness outside recurrent subgraphs; inside them see the finding in DESIGN §5).
**Pipelines with switches only — any nesting, shared cases, shared decision nodes — in every reachable state, under
every schedule (below; `Proofs/Safe.lean`)**: for every solution `val` of the dataflow
equations with switches (`SolutionSw`: a switch node has the value of the case whose label its decision node returned),
* the decision a switch records is the semantic one (`C09_switch_decision_is_semantic`);
* every stored result is the solution's value (`C09_switch_results_agree`) — in particular the value routed to a
  consumer of the switch is the selected case's;
* every body invocation gets exactly the declared arguments computed from the solution, all of its sources having
  values (`C09_switch_invocation_arguments`);
* a returned value is `val output` (`C09_switch_returned_value`).
These are *safety* statements (what is stored, passed and returned is right); that no pending state of a switch pipeline
is stuck is `C02_switch_no_stuck_state` (collaborators that do not suspend), otherwise tied by lock-step with the deadlock
oracle.
-/
namespace MLPE.Eng
open MLPE

/-- the selected case is a declared case of this switch whose label is the string the decision node returned
(the *stored, visible* result of the decision node in this run and iteration) -/
theorem C09_selected_case_has_returned_label (P : Program) (s : St) (n : Node) (l : Label) (cn : Node)
    (h : switchSelect P s n = some (l, cn)) :
    switchLabel P s n = .str l ∧ (l, cn) ∈ switchCases P n :=
  ⟨(switchSelect_some h).1, (List.mem_filter.mp (List.mem_of_getLast? (switchSelect_some h).2)).1⟩

/-- `_run_switch` records the selection and runs the sub-DAG input → selected case, inline -/
theorem C09_selects_case_of_returned_label (c : Ctx) (s : St) (obs : List Obs) (d : DagRef) (n : Node)
    (below : List Frame) (l : Label) (cn : Node) (sub : DagRef) (h : switchSelect c.P s n = some (l, cn))
    (hr : reducedRef c.P (openCand (s.setSw n (l, cn)) d.isOneof cn) c.P.g.input cn false d.isOneof d.isNested = some sub) :
    switchStart c s obs d n below =
      dagInit c (openCand (s.setSw n (l, cn)) d.isOneof cn) obs sub (.switchRet d n :: below) := by
  simp [switchStart, h, hr]

/-- a label that matches no case: `run()` is woken and the switch task ends with `SwitchNoCase` — no case is
selected, nothing is launched -/
theorem C09_unknown_label_fails (c : Ctx) (s : St) (obs : List Obs) (d : DagRef) (n : Node) (below : List Frame)
    (h : switchSelect c.P s n = none) (hd : d.isOneof = false) (hl : (switchLabel c.P s n).isExc = false) :
    switchStart c s obs d n below = raiseOut c (notify s .run) obs below (.exc ⟨"SwitchNoCase", n, 0, 0⟩) := by
  simp [switchStart, h, hd, switchError_of_not_exc hl]

/-- a decision node that failed inside a one-of scope has its exception as result: the switch fails with that error, not
with a `SwitchDoesNotHaveCaseError` about an exception object -/
theorem C09_failed_decision_is_not_a_label (c : Ctx) (s : St) (obs : List Obs) (d : DagRef) (n : Node)
    (below : List Frame) (x : Exc) (hl : switchLabel c.P s n = .exc x) (hd : d.isOneof = false) :
    switchStart c s obs d n below = raiseOut c (notify s .run) obs below (.exc x) := by
  have h : switchSelect c.P s n = none := by unfold switchSelect; rw [hl]
  have : switchError c.P s n = x := by unfold switchError; rw [hl]
  simp [switchStart, h, hd, this]

/-- … inside a one-of scope the error is kept as the result of the switch node (the candidate fails, not the run): no
case is selected, nothing is launched, the waiters of the switch node and of its consumers are woken -/
theorem C09_unknown_label_fails_the_candidate (c : Ctx) (s : St) (obs : List Obs) (d : DagRef) (n : Node)
    (below : List Frame) (h : switchSelect c.P s n = none) (hd : d.isOneof = true) :
    switchStart c s obs d n below =
      retTo c (notifyAll (notify (s.setRes n (.exc (switchError c.P s n))) (.node n)) ((c.P.g.desc1 n).map Key.node))
        obs below .none := by
  simp [switchStart, h, hd]

/-- a label that is not a string, or a string no case declares, selects nothing -/
theorem C09_no_case_no_selection (P : Program) (s : St) (n : Node)
    (h : ∀ l, switchLabel P s n = .str l → ∀ cn, (l, cn) ∉ switchCases P n) : switchSelect P s n = none := by
  cases hsel : switchSelect P s n with
  | none => rfl
  | some lc => exact absurd (C09_selected_case_has_returned_label P s n lc.1 lc.2 hsel).2 (h _ (switchSelect_some hsel).1 _)

/-- case edges are not part of any reduced DAG -/
theorem C09_case_edges_filtered (P : Program) (s : St) (e : Edge) (h : e.case.isSome = true) :
    (filteredView P s).okEdge e = false := by
  cases hc : e.case <;> simp_all [filteredView]

/-- the value routed to the consumer of a switch parameter is the stored result of the recorded case -/
theorem C09_consumer_gets_selected_case_value (kw : Kwargs) (k : String) (s : St) (c : Node) :
    (k, s.getHid c) ∈ insertKw kw k (s.getHid c) :=
  insertKw_self kw k (s.getHid c)

/-! ### Pipelines with switches only: safety in every reachable state, under every schedule -/

/-- **the recorded decision is the semantic one**: the label is the value of the decision node in the dataflow
semantics, the case is the declared case of that label, and the switch node's value is that case's value -/
theorem C09_switch_decision_is_semantic (P : Program) (val : Node → Option Val) (hsw : SwP P) (hsol : SolutionSw P val)
    (s : St) (h : Reach P s) (S : Node) (l : Label) (c : Node) (hs : s.sw S = some (l, c))
    (hS : P.g.isSwitch S = true) :
    switchLabelV P val S = some (.str l) ∧ ((switchCases P S).filter (·.1 == l)).getLast? = some (l, c) ∧
    val S = val c := by
  have hc := (safe_reach_sw hsw hsol h).data.swOK S l c hs
  refine ⟨hc.1, hc.2, ?_⟩
  rw [hsol.sw S hS, hc.sel]; rfl

/-- **every stored result is the value the dataflow semantics assigns to its node** -/
theorem C09_switch_results_agree (P : Program) (val : Node → Option Val) (hsw : SwP P) (hsol : SolutionSw P val)
    (s : St) (h : Reach P s) (n : Node) (v : Val) (hr : s.res n = some v) :
    val n = some v ∧ v.isRecur = false ∧ v.isExc = false :=
  C03_switch_results_final P val hsw hsol s h n v hr

/-- **every body invocation gets the declared arguments**: a task that is executing (or has just executed) attempt `k`
of node `n` with arguments `kw` — for a switch parameter the value of the selected case, as `val` of the switch node -/
theorem C09_switch_invocation_arguments (P : Program) (val : Node → Option Val) (hsw : SwP P)
    (hsol : SolutionSw P val) (s : St) (h : Reach P s) (i : Nat) (tk : Task) (hi : s.tasks[i]? = some tk)
    (d : DagRef) (n : Node) (f : Bool) (k : Nat) (kw : Kwargs) (inv : Nat)
    (hf : Frame.node d n f (.body k kw inv) ∈ tk.frames) :
    kw = kwFrom P val n ∧ (∀ p ∈ P.g.preds n, (val p).isSome = true) ∧ inv = 0 ∧ 1 ≤ k ∧ k ≤ (P.cfg n).attemptsEff := by
  obtain ⟨_, _, _, _, a⟩ := (safe_reach_sw hsw hsol h).frames i tk hi (by simp) _ hf
  exact ⟨a.kw_eq, List.all_eq_true.mp a.preds, a.inv0, a.kpos, a.kle⟩

/-- **a returned value is the dataflow value of the output node** -/
theorem C09_switch_returned_value (P : Program) (val : Node → Option Val) (hsw : SwP P) (hsol : SolutionSw P val)
    (s : St) (h : Reach P s) (v : Val) (ho : s.outcome = some (.value v)) : val P.g.output = some v :=
  C01_switch_value P val hsw hsol s h v ho

/-- **everything the collaborators observe is justified** (the observation log is what the lock-step tie compares with
the real engine): a body is invoked with the declared arguments, in its only invocation, within its attempt budget and
only after every earlier attempt was a retryable failure; a default is computed only when the policy ends in the
default; what is saved is the node's final value; success is reported only for a node that has a value; a reported
node error is an exception the body raised (or a collaborator's); the reported and returned outcome is the output's
value or an error with a cause -/
theorem C09_switch_observations (P : Program) (val : Node → Option Val) (hsw : SwP P) (hsol : SolutionSw P val)
    (s : St) (log : List Obs) (h : Exec P s log) : ∀ o ∈ log, ObsOK P val o :=
  (safe_exec_sw hsw hsol h).2

/-- **an error outcome has a cause**: the final failure of a node on its dataflow arguments, a failing collaborator, a
switch whose decision names no declared case, or a setup error (unreachable case, pools not registered) -/
theorem C09_switch_error_has_cause (P : Program) (val : Node → Option Val) (hsw : SwP P) (hsol : SolutionSw P val)
    (s : St) (h : Reach P s) (e : Exc) (ho : s.outcome = some (.error e) ∨ s.outcome = some (.raised e)) :
    ErrCause P val e :=
  C05_switch_error_has_cause P val hsw hsol s h e ho

/-- a failed switch pipeline whose collaborators do not fail and whose setup is sound failed because a node did, or
because a decision named no case -/
theorem C09_switch_error_is_a_node_failure (P : Program) (val : Node → Option Val) (hsw : SwP P)
    (hsol : SolutionSw P val) (s : St) (h : Reach P s) (e : Exc)
    (ho : s.outcome = some (.error e) ∨ s.outcome = some (.raised e))
    (hcb : ∀ cb n, P.cbRaise cb n = none) (hpools : P.poolsOk = true) (hlk : e.cls ≠ "Other:NodeNotFound") :
    (∃ n, P.g.isSwitch n = false ∧ NodeFails P val n e ∧ val n = none) ∨
    (∃ S, P.g.isSwitch S = true ∧ e = ⟨"SwitchNoCase", S, 0, 0⟩ ∧ swSel P val S = none ∧ val S = none) :=
  C05_switch_error_is_a_real_failure P val hsw hsol s h e ho hcb hpools (fun he => hlk (by rw [he]))

/-- **only needed nodes ever run** (laziness): in every reachable state — the launch orders supplied so far having been
topological orders of their DAGs (`badOrd = false`; the check validates every order the real `_get_node_order` returns) —
a node that has been started is needed by the dataflow reading: it is the output, a source of a needed ordinary node, the
decision node of a needed switch or its **selected** case -/
theorem C09_switch_only_needed_nodes_run (P : Program) (val : Node → Option Val) (hsw : SwP P)
    (hsol : SolutionSw P val) (s : St) (h : Reach P s) (hord : s.badOrd = false) (n : Node) (hp : s.proc n = true) :
    Demanded P val n :=
  C10_only_needed_nodes_run P val hsw.toOneP (hsol.toOne hsw) s h hord n hp

/-- a node nobody needs — for instance a node needed only by a case that is not selected — never starts: it is not marked
as processed, so no `on_node_start`, no body call (both happen in the section that marks it) -/
theorem C09_switch_unneeded_node_never_runs (P : Program) (val : Node → Option Val) (hsw : SwP P)
    (hsol : SolutionSw P val) (s : St) (h : Reach P s) (hord : s.badOrd = false) (n : Node)
    (hn : ¬ Demanded P val n) : s.proc n = false :=
  C10_unneeded_node_never_runs P val hsw.toOneP (hsol.toOne hsw) s h hord n hn

/-- two executions of a switch pipeline — whatever their schedules — never return different values -/
theorem C09_switch_values_agree (P : Program) (val : Node → Option Val) (hsw : SwP P) (hsol : SolutionSw P val)
    (s₁ s₂ : St) (h₁ : Reach P s₁) (h₂ : Reach P s₂) (v₁ v₂ : Val) (ho₁ : s₁.outcome = some (.value v₁))
    (ho₂ : s₂.outcome = some (.value v₂)) : v₁ = v₂ :=
  C01_switch_values_agree P val hsw hsol s₁ s₂ h₁ h₂ v₁ v₂ ho₁ ho₂

/-! Non-vacuity: the demo pipeline of `Proofs/SafeDemo.lean` is a switch pipeline with a solution; a complete run of it
(decision first, then the selected case, the consumer, the return) is exhibited, and by the theorem its value is the
solution's: the value of case `2`, not of case `3`. -/

def runChoicesR (P : Program) : St → List Choice → Option St
  | s, [] => some s
  | s, c :: cs => match step P s c with
    | some (s', _) => runChoicesR P s' cs
    | none => none

theorem reach_of_run {P : Program} : ∀ (cs : List Choice) (s s' : St), Reach P s → runChoicesR P s cs = some s' → Reach P s' :=
  reach_of_steps (fun _ => rfl) (fun _ _ _ => rfl)

def demoSwitchRun : List Choice :=
  [.run 0 [] 0, .run 1 [0, 1, 4, 5] 0, .run 2 [] 0, .gate 0 0 1, .run 2 [] 0, .run 1 [] 0, .run 3 [] 0, .gate 1 0 1,
   .run 3 [] 0, .run 1 [] 0, .run 4 [2] 0, .run 5 [] 0, .gate 2 0 1, .run 5 [] 0, .run 4 [] 0, .run 4 [] 0, .run 1 [] 0,
   .run 6 [] 0, .gate 5 0 1, .run 6 [] 0, .run 1 [] 0, .run 0 [] 0]

def runLog (P : Program) : St → List Obs → List Choice → Option (St × List Obs)
  | s, log, [] => some (s, log)
  | s, log, c :: cs => match step P s c with
    | some (s', obs) => runLog P s' (log ++ obs) cs
    | none => none

theorem exec_of_runLog {P : Program} : ∀ (cs : List Choice) (s : St) (log : List Obs) (r : St × List Obs),
    Exec P s log → runLog P s log cs = some r → Exec P r.1 r.2 :=
  exec_of_steps (fun _ _ => rfl) (fun _ _ _ _ => rfl)

theorem runLog_fst {P : Program} : ∀ (cs : List Choice) (s : St) (log : List Obs),
    (runLog P s log cs).map (·.1) = runChoicesR P s cs
  | [], _, _ => rfl
  | c :: cs, s, log => by
    simp only [runLog, runChoicesR]
    split
    · exact runLog_fst cs _ _
    · rfl

/-- the complete run, evaluated once for the two demonstrations below: what they need of its final state and of its log -/
theorem demoSwitchRun_facts : ∃ r, runLog demoSwitch init [] demoSwitchRun = some r ∧ Exec demoSwitch r.1 r.2 ∧
    (r.1.sw 4 = some ("l0", 2) ∧ r.1.badOrd = false ∧ ∃ v, r.1.outcome = some (.value v)) ∧
    r.2.any (fun o => match o with | .body 5 0 1 _ => true | _ => false) = true ∧
    r.2.any (fun o => match o with | .save 2 _ => true | _ => false) = true ∧
    r.2.any (fun o => match o with | .returned (.value _) => true | _ => false) = true :=
  fact_of_run (fun r => exec_of_runLog (P := demoSwitch) demoSwitchRun init [] r .init) _ (by decide +kernel)

example : ∃ s, runChoicesR demoSwitch init demoSwitchRun = some s ∧ Reach demoSwitch s ∧
    s.sw 4 = some ("l0", 2) ∧ demoSwVal 4 = demoSwVal 2 ∧ s.proc 3 = false ∧
    ∃ v, s.outcome = some (.value v) ∧ demoSwVal demoSwitch.g.output = some v := by
  obtain ⟨r, hrun, hex, ⟨hsw4, hord, v, hv⟩, -⟩ := demoSwitchRun_facts
  have hr := hex.reach
  exact ⟨r.1, by rw [← runLog_fst _ _ [], hrun]; rfl, hr, hsw4,
    (C09_switch_decision_is_semantic demoSwitch demoSwVal demoSwitch_swP demoSwVal_solution r.1 hr 4 "l0" 2 hsw4
      (by decide)).2.2,
    C09_switch_unneeded_node_never_runs demoSwitch demoSwVal demoSwitch_swP demoSwVal_solution r.1 hr hord 3
      (fun hd => absurd (demoSwitch_demanded 3 hd) (by decide)),
    v, hv, C09_switch_returned_value demoSwitch demoSwVal demoSwitch_swP demoSwVal_solution r.1 hr v hv⟩

/-- in the complete run above, the consumer's body (node 5) is observed being invoked, the selected case's value is
observed being saved, and a value is observed being returned: by `C09_switch_observations` the consumer got the declared
arguments — the selected case's value for its switch parameter — and what was saved and returned is the solution's -/
example : ∃ s log, Exec demoSwitch s log ∧
    (∃ kw, Obs.body 5 0 1 kw ∈ log ∧ kw = kwFrom demoSwitch demoSwVal 5) ∧
    (∃ v, Obs.save 2 v ∈ log ∧ demoSwVal 2 = some v) ∧
    (∃ v, Obs.returned (.value v) ∈ log ∧ demoSwVal demoSwitch.g.output = some v) := by
  obtain ⟨r, -, hex, -, h1, h2, h3⟩ := demoSwitchRun_facts
  have hall := C09_switch_observations demoSwitch demoSwVal demoSwitch_swP demoSwVal_solution r.1 r.2 hex
  obtain ⟨o1, hm1, hp1⟩ := List.any_eq_true.mp h1
  obtain ⟨o2, hm2, hp2⟩ := List.any_eq_true.mp h2
  obtain ⟨o3, hm3, hp3⟩ := List.any_eq_true.mp h3
  refine ⟨r.1, r.2, hex, ?_, ?_, ?_⟩
  · split at hp1
    · next kw => exact ⟨kw, hm1, (hall _ hm1).kw_eq⟩
    · cases hp1
  · split at hp2
    · next v => exact ⟨v, hm2, (hall _ hm2).1⟩
    · cases hp2
  · split at hp3
    · next v => exact ⟨v, hm3, outcome_value_sw demoSwitch_swP (hall _ hm3)⟩
    · cases hp3

end MLPE.Eng
