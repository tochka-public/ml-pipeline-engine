import MLPE.Proofs.EngBasic

/-!
# C13 — nothing is left running after a run ends or is cancelled

Theorems about the engine model, for every program and every state (no reachability hypothesis is
needed: they are facts about single sections).

* when `manager.run` leaves (normally, with an error, or because the caller was cancelled while it
  waited) its `finally` has requested the cancellation of every task the run created that is not
  finished (`C13_finish_marks_every_task`, `C13_cancel_marks_every_task`);
* the next section of a task whose cancellation was requested ends that task, and does nothing else
  that can be observed: no node body, event callback, artifact save or new task
  (`C13_cancelled_task_ends_silently`); it cannot un-mark another task (`C13_marks_are_stable`);
* cancelling the caller surfaces as `CancelledError` and nothing else (`C13_caller_sees_cancelled_only`).
Hence after the end every remaining task finishes in exactly one more section each
(`C13_section_after_the_end_finishes_its_task`; a finished task takes no step, `C13_finished_task_is_never_stepped`).

Global form (all programs): `C13_after_cleanup_others_marked` (the state `manager.run` leaves behind has
every other task finished or cancel-marked), `C13_after_cleanup_nothing_starts` (from such a state every step of anybody
but the caller creates no task and reports only endings — also while `on_pipeline_complete` is still suspended),
`C13_after_return_nothing_ever_starts` (once the caller's task has ended as well, this holds for every continuation of
any length).
Not carried by the model: a body already running in a real thread / process cannot be interrupted.
-/
namespace MLPE.Eng
open MLPE

/-- `_stop_coro_tasks(*self._coro_tasks)`: every task except the one running the cleanup is marked afterwards -/
theorem C13_cleanup_marks_every_task (s : St) (t i : Nat) (tk : Task) (h : s.tasks[i]? = some tk) (hne : i ≠ t) :
    ∃ tk', (cancelTasks s (liveTasks s t)).tasks[i]? = some tk' ∧ tk'.marked = true :=
  marked_cancelTasks _ s i tk h (Or.inl (mem_liveTasks s t i (getElem?_lt h) hne))

/-- **normal / error end**: once `manager.run`'s predicate is true and it leaves through `finally`, every
other task is finished or has its cancellation requested — also while `on_pipeline_complete` is still suspended -/
theorem C13_finish_marks_every_task (c : Ctx) (s : St) (obs : List Obs) (i : Nat) (tk : Task)
    (h : s.tasks[i]? = some tk) (hne : i ≠ c.t) :
    ∃ tk', (mgrFinish c s obs).1.tasks[i]? = some tk' ∧ tk'.marked = true := by
  unfold mgrFinish
  rw [others_mgrComplete _ _ _ _ _ hne]
  exact C13_cleanup_marks_every_task s c.t i tk h hne

/-- **caller cancelled while `manager.run` waits**: the same cleanup runs, and the caller sees `CancelledError` -/
theorem C13_cancel_marks_every_task (c : Ctx) (s : St) (tk0 : Task) (h0 : tk0.frames = [.mgrWait])
    (i : Nat) (tk : Task) (h : s.tasks[i]? = some tk) (hne : i ≠ c.t) :
    ∃ tk', (deliverCancel c s tk0).1.tasks[i]? = some tk' ∧ tk'.marked = true := by
  unfold deliverCancel
  simp only [h0, St.setOutcome]
  rw [endTask_finish, finish_others _ _ _ _ _ hne]
  exact C13_cleanup_marks_every_task s c.t i tk h hne

/-- cancelling the caller at any of its suspension points surfaces as `CancelledError` only -/
theorem C13_caller_sees_cancelled_only (c : Ctx) (s : St) (tk0 : Task)
    (h0 : tk0.frames = [.mgrStart] ∨ tk0.frames = [.mgrWait] ∨ (∃ j, tk0.frames = [.mgrCbStart j]) ∨
          (∃ j o, tk0.frames = [.mgrCbComplete j o])) :
    (deliverCancel c s tk0).1.outcome = some .cancelled := by
  unfold deliverCancel
  rcases h0 with h | h | ⟨j, h⟩ | ⟨j, o, h⟩ <;> simp [h, St.setOutcome]

/-- **a cancelled engine task ends silently in one section**: whatever it was doing, its next section
unwinds its frames (only notifications and the node's event are touched), ends the task as cancelled, emits
nothing but its own `done`, and creates no task -/
theorem C13_cancelled_task_ends_silently (c : Ctx) (s : St) (tk : Task) (rv : Resume)
    (h : s.tasks[c.t]? = some tk) (hst : tk.st = .runnable rv) (hm : tk.mustCancel = true)
    (hf : isCallerFrames tk.frames = false) :
    stepTask c s = some (endTask c (unwindFrames c.P s tk.frames) [] .cancelled) ∧
    (endTask c (unwindFrames c.P s tk.frames) [] .cancelled).2 = [.done c.t .cancelled] ∧
    (endTask c (unwindFrames c.P s tk.frames) [] .cancelled).1.tasks.length = s.tasks.length := by
  obtain ⟨tk', hk'⟩ := (Resched.unwindFrames c.P s tk.frames).fwd h
  refine ⟨?_, ?_, ?_⟩
  · rw [stepTask_mustCancel h hst hm, deliverCancel_engine c s hf]; rfl
  · rw [endTask_finish, finish_done hk'.1]; rfl
  · rw [endTask_finish, finish_len, (Resched.unwindFrames c.P s tk.frames).len]

/-- marks are stable: neither notifications, nor setting an event, nor another cancellation removes a mark -/
theorem C13_marks_are_stable (P : Program) (s : St) (fs : List Frame) (i : Nat) :
    ((unwindFrames P s fs).tasks[i]?).map Task.marked = (s.tasks[i]?).map Task.marked := by
  obtain ⟨ks, evs, h⟩ := unwindFrames_eq P fs s
  rw [h]; exact marked_woken s ks evs i

/-! Non-vacuity: a blocked, unfinished task that `run()`'s cleanup reaches becomes runnable and marked. -/
example :
    let tk : Task := { frames := [.dagWaitDest ⟨0, some 1, [0, 1], false, false, false⟩], st := .blocked (.cond (.node 1)) }
    (cancelled tk).marked = true ∧ (cancelled tk).st = .runnable .go := by
  decide

/-! ### After the end, globally (all programs, all continuations) -/

/-- every task of the run with an index in `I` is finished or has its cancellation requested -/
def MarkedOn (I : Nat → Prop) (s : St) : Prop := ∀ (i : Nat) (tk : Task), I i → s.tasks[i]? = some tk → tk.marked = true

def AllMarked (s : St) : Prop := MarkedOn (fun _ => True) s

def Obs.isEnding : Obs → Bool
  | .done .. => true
  | .returned .. => true
  | _ => false

theorem MarkedOn.resched {I : Nat → Prop} {s s' : St} (h : MarkedOn I s) (r : Resched s s') : MarkedOn I s' := by
  intro i tk' hI hi
  obtain ⟨tk, h0, rt⟩ := r.back hi
  exact rt.marked (h i tk hI h0)

theorem MarkedOn.finish_done {I : Nat → Prop} {s : St} (h : MarkedOn I s) (c : Ctx) (obs : List Obs) (r : TaskRes) :
    MarkedOn I (finish c s obs [] (.done r)).1 := by
  intro i tk hI hi
  by_cases hit : i = c.t
  · subst hit
    cases hc : s.tasks[c.t]? with
    | none => rw [finish_none hc] at hi; exact h _ tk hI hi
    | some tk0 => rw [finish_done_self hc] at hi; cases hi; rfl
  · rw [finish_others _ _ _ _ _ hit] at hi
    exact h i tk hI hi

/-- the step the two global statements rest on: when the tasks with an index in `I` are finished or cancel-marked and the
choice runs none but those (`hI`; completing bodies, timers and the canceller are not restricted), the step keeps them so,
creates no task and reports nothing but task endings — no node body, event callback, artifact save, default, retry sleep
or new DAG.  `I` is everybody but the caller while `on_pipeline_complete` is suspended, and everybody after it -/
theorem markedOn_step (P : Program) (I : Nat → Prop) (s : St) (h : MarkedOn I s) (ch : Choice) (out : Out)
    (hs : step P s ch = some out) (hI : ∀ t ord pick, ch = .run t ord pick → I t) :
    MarkedOn I out.1 ∧ out.1.tasks.length = s.tasks.length ∧ ∀ o ∈ out.2, o.isEnding = true := by
  rcases step_cases hs with ⟨t, ord, pick, rfl, hs⟩ | ⟨r, ho⟩
  · obtain ⟨-, s', obs, -, r, hobs, e1, e2⟩ := marked_section hs fun tk => h t tk (hI t ord pick rfl)
    refine ⟨fun i tk hi htk => (h.resched r).finish_done ⟨P, t, ord, pick⟩ obs .cancelled i tk hi (e1 ▸ htk),
      by rw [e1, finish_len, r.len], fun o ho => ?_⟩
    rcases mem_finish_obs (e2 ▸ ho) with ho | ⟨_, rfl⟩
    · rw [hobs o ho]; rfl
    · rfl
  · exact ⟨h.resched r, r.len, by simp [ho]⟩

def runObs (P : Program) : St → List Choice → Option (St × List Obs)
  | s, [] => some (s, [])
  | s, c :: cs => match step P s c with
    | some (s', obs) => (runObs P s' cs).map (fun r => (r.1, obs ++ r.2))
    | none => none

/-- **when `manager.run` leaves** (value or error): every task other than the caller's is finished or cancel-marked in
the resulting state — the precondition of `markedOn_step` -/
theorem C13_after_cleanup_others_marked (c : Ctx) (s : St) (obs : List Obs) :
    MarkedOn (fun i => i ≠ c.t) (mgrFinish c s obs).1 := by
  intro i tk hne hi
  rw [mgrFinish, others_mgrComplete _ _ _ _ _ hne] at hi
  obtain ⟨tk0, h0, -⟩ := (Resched.cancelTasks _ s).back hi
  obtain ⟨tk', h1, h2⟩ := C13_cleanup_marks_every_task s c.t i tk0 h0 hne
  rw [hi] at h1; cases h1; exact h2

/-- **from then on** (all programs): whatever the other tasks, the outstanding bodies, timers and the canceller do next,
no task is created and nothing but task endings is observed; the caller's own remaining sections are the return from
`on_pipeline_complete` -/
theorem C13_after_cleanup_nothing_starts (P : Program) (t : Nat) (s : St) (h : MarkedOn (fun i => i ≠ t) s)
    (ch : Choice) (out : Out) (hs : step P s ch = some out) (hne : ∀ ord pick, ch ≠ .run t ord pick) :
    MarkedOn (fun i => i ≠ t) out.1 ∧ out.1.tasks.length = s.tasks.length ∧ ∀ o ∈ out.2, o.isEnding = true :=
  markedOn_step P _ s h ch out hs (fun t' ord pick he hte => hne ord pick (by rw [he, hte]))

/-- **once the caller's task has ended too**, any continuation whatsoever (any number of steps) observes only task
endings and creates nothing -/
theorem C13_after_return_nothing_ever_starts (P : Program) (cs : List Choice) (s s' : St) (obs : List Obs)
    (h : AllMarked s) (hr : runObs P s cs = some (s', obs)) :
    AllMarked s' ∧ s'.tasks.length = s.tasks.length ∧ ∀ o ∈ obs, o.isEnding = true := by
  induction cs generalizing s obs with
  | nil => cases hr; exact ⟨h, rfl, nofun⟩
  | cons c cs ih =>
    simp only [runObs] at hr
    split at hr
    · next s1 obs1 hs =>
      obtain ⟨r, hr2, e⟩ := Option.map_eq_some_iff.mp hr
      cases e
      obtain ⟨a, b, d⟩ := markedOn_step P _ s h c (s1, obs1) hs fun _ _ _ _ => trivial
      obtain ⟨a', b', d'⟩ := ih s1 r.2 a hr2
      exact ⟨a', b'.trans b, fun o ho => (List.mem_append.mp ho).elim (d o) (d' o)⟩
    · cases hr

/-! ### A bounded drain (all programs): after the end every task runs at most one more section -/

/-- a finished task is never stepped again (every program, every state) -/
theorem C13_finished_task_is_never_stepped (P : Program) (s : St) (t : Nat) (tk : Task) (ord : List Node) (pick : Nat)
    (h : s.tasks[t]? = some tk) (hd : tk.isDone = true) : step P s (.run t ord pick) = none := by
  cases hs : step P s (.run t ord pick) with
  | none => rfl
  | some out =>
    obtain ⟨tk', rv, h', hst, -⟩ := stepTask_cases hs
    rw [h] at h'; cases h'
    simp [Task.isDone, hst] at hd

/-- **after the end, a section finishes its task** (all programs): in a state in which every task is finished or
cancel-marked, the section of task `t` ends `t`, and every task that was finished stays finished -/
theorem C13_section_after_the_end_finishes_its_task (P : Program) (s : St) (h : AllMarked s) (t : Nat) (ord : List Node)
    (pick : Nat) (out : Out) (hs : step P s (.run t ord pick) = some out) :
    (∃ tk' : Task, out.1.tasks[t]? = some tk' ∧ tk'.isDone = true) ∧
    (∀ (i : Nat) (tk : Task), s.tasks[i]? = some tk → tk.isDone = true →
      ∃ tk' : Task, out.1.tasks[i]? = some tk' ∧ tk'.isDone = true) := by
  -- the section is a `finish … done` on a state whose tasks are `s`'s up to wake-ups and cancellations
  obtain ⟨tk, s', obs, htk, r, -, e, -⟩ := marked_section hs fun tk => h t tk trivial
  obtain ⟨tk0, htk0, -⟩ := r.fwd htk
  have self := finish_done_self (c := ⟨P, t, ord, pick⟩) htk0 obs [] .cancelled
  rw [e]
  refine ⟨⟨_, self, rfl⟩, fun i x hi hx => ?_⟩
  by_cases hit : i = t
  · subst hit; exact ⟨_, self, rfl⟩
  · obtain ⟨y, hy, rt⟩ := r.fwd hi
    exact ⟨y, by rw [finish_others _ _ _ _ _ hit]; exact hy, by rw [rt.isDone]; exact hx⟩

end MLPE.Eng
