import MLPE.Proofs.Builder

/-!
# C16 — declarations the engine cannot execute are rejected at build time

`Builder.build` is the model of `build_dag` (worklist traversal from the output, per-node validators, the two
recurrent post-validations).  Quantification: every well-formed declaration set (class references are declared
classes), any number of nodes, any mix of marks, defects anywhere.

* every defect of the per-node validators at a node the output can reach — not a class, no node base, no callable
  `process`, no / missing annotations, an un-rebound generic input — makes `build` fail, no DAG is returned
  (`C16_defective_declaration_rejected`), with the specific error of a reachable defective node
  (`C16_error_is_specific`);
* a recurrent destination without the recurrent protocol and a recurrent start node without `additional_data`
  are rejected (`C16_recurrent_dest_needs_protocol`, `C16_recurrent_start_needs_additional_data`);
* a declaration set free of these defects builds (`C16_valid_declarations_build`).
How a Python object comes to lack a base class / `process` / an annotation is data of the model (`Decl`), produced
by the generator, not modelled.
-/
namespace MLPE.Builder

/-- **every reachable defect is fatal**: if some node the output can reach fails a per-node validator, `build` does
not return a DAG -/
theorem C16_defective_declaration_rejected (D : Decls) (hwf : WF D) (c : Cls) (hr : Reachable D c)
    (hbad : ¬ NodeOk D c) : ∀ b, build D ≠ .ok b :=
  fun _ hb => hbad (build_ok_reachable hwf hb hr).1

/-- **the error is specific**: a failing `build` reports the validator error of a node the output can reach, or one
of the two recurrent post-validation errors -/
theorem C16_error_is_specific (D : Decls) (hwf : WF D) (e : BuildErr) (h : build D = .error e) :
    (∃ c, Reachable D c ∧ (validateNode (D.get c) = some e ∨ marksOf (D.get c) = .error e)) ∨
    e = .incorrectRecurrentMixin ∨ e = .incorrectParamsRecurrentNode := by
  have ht := traverse_output D hwf (({} : G).mapNode (D.id D.input) D.input)
  unfold build at h
  dsimp only at h
  split at h
  · next e' he =>
    cases h
    rw [he] at ht
    exact Or.inl ht
  · split at h
    · next e' hp =>
      cases h
      unfold postValidate at hp
      split at hp
      · cases hp; exact Or.inr (Or.inl rfl)
      · split at hp
        · cases hp; exact Or.inr (Or.inr rfl)
        · cases hp
    · cases h

/-- **every declaration set free of the defects builds** -/
theorem C16_valid_declarations_build (D : Decls) (hwf : WF D) (hok : ∀ c, Reachable D c → NodeOk D c)
    (hpost : ∀ g v, traverse D (D.ds.length + 1) (({} : G).mapNode (D.id D.input) D.input) [D.output] [D.output]
      = .ok (g, v) → postValidate D g = none) :
    ∃ b, build D = .ok b := by
  obtain ⟨g, v, ht, _⟩ := traverse_visits_reachable D hwf hok
  unfold build
  simp only [ht, hpost g v ht]
  exact ⟨_, rfl⟩

/-- equal ids name the same declaration (node ids are unique, which `get_node_id` + distinct `name`s give) -/
def IdsDetermine (D : Decls) : Prop := ∀ a b, D.id a = D.id b → D.get a = D.get b

theorem clsOf_correct (D : Decls) (hid : IdsDetermine D) (g : G) (hm : MapOK D g) (x : Cls) (hx : D.id x ∈ keysM g) :
    ∃ c, clsOf g (D.id x) = some c ∧ D.get c = D.get x := by
  unfold clsOf
  cases hf : g.nodeMap.find? (·.1 == D.id x) with
  | none =>
    obtain ⟨kc, hkc, he⟩ := List.mem_map.mp hx
    exact absurd (beq_iff_eq.mpr he) (List.find?_eq_none.mp hf kc hkc)
  | some kc =>
    have hkey : kc.1 = D.id x := by simpa using List.find?_some hf
    exact ⟨kc.2, rfl, hid _ _ (by rw [← hm kc (List.mem_of_find?_eq_some hf), hkey])⟩

theorem rec_mark_recorded (D : Decls) (hwf : WF D) (hid : IdsDetermine D) (b : Built) (hb : build D = .ok b) (cur : Cls)
    (hr : Reachable D cur) (kw : String) (start dest mx : Nat)
    (hmark : (kw, Mark.recurrent start dest mx) ∈ (D.get cur).marks) :
    (D.id start, D.id dest) ∈ b.g.recs ∧ (∃ c, clsOf b.g (D.id dest) = some c ∧ D.get c = D.get dest) := by
  obtain ⟨_, hrec, hmapped⟩ := (build_ok_reachable hwf hb hr).2.marks _ hmark
  exact ⟨hrec, clsOf_correct D hid b.g (build_ok_mapOK hb) dest hmapped⟩

/-- a `RecurrentSubGraph` whose destination lacks the recurrent protocol is rejected -/
theorem C16_recurrent_dest_needs_protocol (D : Decls) (hwf : WF D) (hid : IdsDetermine D) (cur : Cls)
    (hr : Reachable D cur) (kw : String) (start dest mx : Nat)
    (hmark : (kw, Mark.recurrent start dest mx) ∈ (D.get cur).marks) (hbad : (D.get dest).isRecurrent = false) :
    ∀ b, build D ≠ .ok b := by
  intro b hb
  obtain ⟨hrec, c, hfind, hget⟩ := rec_mark_recorded D hwf hid b hb cur hr kw start dest mx hmark
  obtain ⟨_, _, hp⟩ := build_ok_traverse hb
  have hany : b.g.recs.any (badDest D b.g) = true :=
    List.any_eq_true.mpr ⟨_, hrec, by simp [badDest, hfind, hget, hbad]⟩
  simp [postValidate, hany] at hp

/-- a recurrent start node (a declared class, reachable from the output) without an `additional_data` parameter is
rejected -/
theorem C16_recurrent_start_needs_additional_data (D : Decls) (hwf : WF D) (hid : IdsDetermine D) (cur : Cls)
    (hr : Reachable D cur) (kw : String) (start dest mx : Nat)
    (hmark : (kw, Mark.recurrent start dest mx) ∈ (D.get cur).marks) (hstart : Reachable D start)
    (hbad : (D.get start).hasAdditional = false) (b : Built) (hb : build D = .ok b) :
    b.g.synth.contains (D.id start) = true ∨ b.g.synth.contains (D.id dest) = true := by
  obtain ⟨hrec, _⟩ := rec_mark_recorded D hwf hid b hb cur hr kw start dest mx hmark
  obtain ⟨_, _, hp⟩ := build_ok_traverse hb
  obtain ⟨c, hfind, hget⟩ := clsOf_correct D hid b.g (build_ok_mapOK hb) start (build_ok_reachable hwf hb hstart).2.mapped
  by_cases hsyn : (b.g.synth.contains (D.id start) || b.g.synth.contains (D.id dest)) = true
  · simpa using hsyn
  · exfalso
    have hany : b.g.recs.any (badStart D b.g) = true :=
      List.any_eq_true.mpr ⟨_, hrec, by simp only [badStart, Bool.not_eq_true _ ▸ hsyn]; simp [hfind, hget, hbad]⟩
    simp only [postValidate, hany, if_true] at hp
    split at hp <;> cases hp

/-! Non-vacuity: a three-node declaration set with an un-annotated parameter behind an `Input` mark is rejected with
the specific error, and the repaired set builds. -/
def demo (bad : Bool) : Decls :=
  { ds := [{ ident := "processor__N0", marks := [] },
           { ident := "processor__N1", marks := [("a", .input 0)], unannotated := if bad then some "z" else none },
           { ident := "processor__N2", marks := [("a", .input 1)] }], input := 0, output := 2 }

example : (match build (demo true) with | .error e => decide (e = .undefinedParamAnnotation) | .ok _ => false) = true := by
  decide

example : (match build (demo false) with | .ok b => decide (b.g.nodeMap.length = 3) | .error _ => false) = true := by
  decide

end MLPE.Builder
