import MLPE.Proofs.SafeRun
import MLPE.Props.C10
import MLPE.Proofs.EngBasic
import MLPE.Proofs.PlainSol

/-!
# C05 — failures are reported faithfully

General facts of the engine model (every program, every state):
* the outcome `manager.run` / `chart.run` produce is either `error e` / `raised e` where `e` is the exception
  with which one of the run's own tasks *finished* — never the cancellation of a helper task (fix a917321) —
  or, when no task failed, the stored value of the output node (`C05_outcome_is_task_error_or_output_value`);
* an `Exception` is always wrapped into the `PipelineResult` (`error`), only a `BaseException` outside
  `Exception` propagates (`raised`) (`C05_exceptions_are_wrapped`);
* the exception a node task finishes with is the one its body raised at the deciding attempt
  (`C05_node_failure_is_the_raised_exception`, with C12's `Retry.decide`).
That such a task exists only if a *required* node failed, and that no value is returned in that case: for plain pipelines
`C05_plain_error_is_a_required_node_failure` / `C05_plain_failure_is_never_masked` below; switch and one-of pipelines follow.
-/
namespace MLPE.Eng
open MLPE

/-- the exceptions `_get_first_error_in_tasks` can return: those of finished, non-cancelled tasks -/
theorem C05_taskErrors_are_finished_task_exceptions (s : St) (e : Exc) :
    e ∈ taskErrors s ↔ ∃ tk ∈ s.tasks, tk.st = .done (.exc e) := by
  rw [mem_taskErrors_iff]
  constructor
  · rintro ⟨i, tk, hi, h⟩
    exact ⟨tk, List.mem_of_getElem? hi, h⟩
  · rintro ⟨tk, htk, h⟩
    obtain ⟨i, hi⟩ := List.mem_iff_getElem?.mp htk
    exact ⟨i, tk, hi, h⟩

theorem C05_finish_uses_finishOutcome (c : Ctx) (s : St) (obs : List Obs) :
    mgrFinish c s obs = mgrComplete c (cancelTasks s (liveTasks s c.t)) obs (finishOutcome c s) := rfl

/-- **verdict**: an error outcome is the exception of a finished engine task; a value is reported only when no
engine task has failed, and then it is the stored result of the output node -/
theorem C05_outcome_is_task_error_or_output_value (c : Ctx) (s : St) :
    (∃ e, e ∈ taskErrors s ∧ (finishOutcome c s = .error e ∨ finishOutcome c s = .raised e)) ∨
    (taskErrors s = [] ∧ finishOutcome c s = .value (s.getHid c.P.g.output)) := by
  refine (finishOutcome_cases c s).imp (fun ⟨e, hm, ho⟩ => ⟨e, hm, ?_⟩) id
  rw [ho]
  split
  · exact .inl rfl
  · exact .inr rfl

/-- `chart.run` never raises for an `Exception` subclass, and never wraps a `BaseException` -/
theorem C05_exceptions_are_wrapped (c : Ctx) (s : St) (e : Exc) :
    (finishOutcome c s = .raised e → e.isException = false) ∧
    (finishOutcome c s = .error e → e.isException = true) := by
  rcases finishOutcome_cases c s with ⟨e', _, ho⟩ | ⟨_, ho⟩ <;> rw [ho]
  · cases hx : e'.isException <;> simp only [Bool.false_eq_true, if_false, if_true]
    · exact ⟨fun h => by cases h; exact hx, nofun⟩
    · exact ⟨nofun, fun h => by cases h; exact hx⟩
  · exact ⟨nofun, nofun⟩

/-- a cancelled helper task is never the reported error (fix a917321) -/
theorem C05_cancelled_task_is_not_an_error (s : St) (tk : Task) (h : tk.st = .done .cancelled) (e : Exc) :
    tk.st ≠ .done (.exc e) := by
  simp [h]

/-- outside a one-of scope, a node whose policy decides `failed e` ends its task with exactly that exception, after
`on_node_complete(error=e)` and the `finally` notifications -/
theorem C05_node_failure_is_the_raised_exception (c : Ctx) (s : St) (obs : List Obs) (d : DagRef) (n : Node)
    (below : List Frame) (e : Exc) (hd : d.isOneof = false) :
    nodeFailCont c s obs d n below e = raiseOut c (nodeFinally c.P s d n true) obs below (.exc e) := by
  simp [nodeFailCont, hd]

/-! ### Plain pipelines, all schedules -/

/-- **C05 (plain), soundness of the verdict**: an error verdict is the policy's failure of a node of the pipeline (all of
whose sources have values) or the exception a collaborator (event manager, artifact store) raised; it is wrapped in the
result iff it is an `Exception` raised inside the engine; never an engine artefact -/
theorem C05_plain_error_is_a_required_node_failure (P : Program) (d : DagRef) (val : Node → Option Val) (hp : PlainP P d)
    (hsol : Solution P d val) (s : St) (h : Live P s) (hpending : s.outcome = none) (c : Choice)
    (hor : OracleOK P s c) (s' : St) (obs : List Obs) (hs : step P s c = some (s', obs)) (o : Outcome)
    (ho : s'.outcome = some o) :
    (∀ e, o = .error e → e.isException = true ∧ FailCause P d val e) ∧
    (∀ e, o = .raised e → CollabFails P e ∨ (e.isException = false ∧ FailCause P d val e)) := by
  have hok := outcome_live (val := val) hp h hpending c hor (s', obs) hs o ho
  constructor
  · intro e he; subst he; exact ⟨hok.1, hok.2 hsol⟩
  · intro e he; subst he
    rcases hok with h1 | ⟨h1, h2⟩
    · exact Or.inl h1
    · exact Or.inr ⟨h1, h2 hsol⟩

/-- with collaborators that do not raise, the cause is a node of the pipeline -/
theorem C05_plain_error_is_a_node_failure_no_collaborator_faults (P : Program) (d : DagRef) (val : Node → Option Val)
    (hp : PlainP P d) (hsol : Solution P d val) (hnr : ∀ e, ¬ CollabFails P e) (s : St) (h : Live P s)
    (hpending : s.outcome = none) (c : Choice) (hor : OracleOK P s c) (s' : St) (obs : List Obs)
    (hs : step P s c = some (s', obs)) (e : Exc) (ho : s'.outcome = some (.error e) ∨ s'.outcome = some (.raised e)) :
    ∃ n ∈ d.nodes, NodeFails P val n e := by
  have hc : FailCause P d val e := by
    rcases ho with ho | ho
    · exact ((C05_plain_error_is_a_required_node_failure P d val hp hsol s h hpending c hor s' obs hs _ ho).1 e rfl).2
    · exact ((C05_plain_error_is_a_required_node_failure P d val hp hsol s h hpending c hor s' obs hs _ ho).2 e rfl).elim
        (fun h1 => absurd h1 (hnr e)) (·.2)
  exact hc.resolve_right (hnr e)

/-- **C05 (plain), completeness of the verdict**: if some node of the pipeline fails (in the dataflow reading: its
sources have values and the retry / default policy ends in a failure), then no execution returns a value — every node
of the DAG feeds the output, so the failure cannot be masked -/
theorem C05_plain_failure_is_never_masked (P : Program) (d : DagRef) (val : Node → Option Val) (hp : PlainP P d)
    (hsol : Solution P d val) (ord : List Node) (ht : TopoOrd P d ord) (hfo : FeedsOutput P d)
    (n : Node) (hn : n ∈ d.nodes) (e : Exc) (hfail : NodeFails P val n e)
    (s : St) (h : Live P s) (hpending : s.outcome = none) (c : Choice)
    (hor : OracleOK P s c) (s' : St) (obs : List Obs) (hs : step P s c = some (s', obs)) (v : Val) :
    s'.outcome ≠ some (.value v) := by
  intro ho
  have hok := outcome_live (val := val) hp h hpending c hor (s', obs) hs _ ho
  have a : val P.g.output = some v := hok hsol
  have := val_none_propagates hsol ht hfo _ n hn (Nat.le_refl _) (none_of_failed (hsol.eq n hn) hfail)
  rw [a] at this; cases this

/-! ### Pipelines with switches: the error of a failed run has a cause (under every schedule) -/

/-- **C05 (switch pipelines)**: when a run ends with an error, the error is the final failure of a node on its dataflow
arguments, a collaborator's exception, the no-case error of a switch whose decision names no declared case, or a setup
error; it is never an exception of an attempt that was retried, nor a made-up one -/
theorem C05_switch_error_has_cause (P : Program) (val : Node → Option Val) (hsw : SwP P) (hsol : SolutionSw P val)
    (s : St) (h : Reach P s) (e : Exc) (ho : s.outcome = some (.error e) ∨ s.outcome = some (.raised e)) :
    ErrCause P val e :=
  C10_error_has_cause P val hsw.toOneP (hsol.toOne hsw) s h e ho

/-- with sound collaborators and setup, the node (or switch) named by the error has no value in the dataflow semantics -/
theorem C05_switch_error_is_a_real_failure (P : Program) (val : Node → Option Val) (hsw : SwP P)
    (hsol : SolutionSw P val) (s : St) (h : Reach P s) (e : Exc)
    (ho : s.outcome = some (.error e) ∨ s.outcome = some (.raised e))
    (hcb : ∀ cb n, P.cbRaise cb n = none) (hpools : P.poolsOk = true) (hlk : e ≠ ⟨"Other:NodeNotFound", 0, 0, 0⟩) :
    (∃ n, P.g.isSwitch n = false ∧ NodeFails P val n e ∧ val n = none) ∨
    (∃ S, P.g.isSwitch S = true ∧ e = ⟨"SwitchNoCase", S, 0, 0⟩ ∧ swSel P val S = none ∧ val S = none) := by
  rcases errCause_sw hsw (C05_switch_error_has_cause P val hsw hsol s h e ho) with
    ⟨n, h1, h2⟩ | ⟨cb, m, hc⟩ | ⟨S, h1, h2, h4⟩ | h5 | ⟨h6, _⟩
  · exact Or.inl ⟨n, h1, h2, none_of_failed (hsol.plain n h1) h2⟩
  · rw [hcb] at hc; cases hc
  · refine Or.inr ⟨S, h1, h2, h4, ?_⟩
    rw [hsol.sw S h1, h4]; rfl
  · exact absurd h5 hlk
  · rw [hpools] at h6; cases h6

/-- a value is never returned in place of a failure: if the output has no value, no value is returned -/
theorem C05_switch_failure_is_never_masked (P : Program) (val : Node → Option Val) (hsw : SwP P)
    (hsol : SolutionSw P val) (s : St) (h : Reach P s) (hnone : val P.g.output = none) (v : Val) :
    s.outcome ≠ some (.value v) := by
  intro ho
  have : val P.g.output = some v := outcome_value_sw hsw ((safe_reach_sw hsw hsol h).data.out (.value v) ho)
  rw [hnone] at this; cases this

/-! ### Pipelines with switches and one-ofs: the error of a failed run has a cause -/

/-- **C05 (switch / one-of pipelines)**: an error outcome is the final failure of a node on its dataflow arguments, a
collaborator's exception, the no-case error of a switch that selects nothing, `OneOfDoesNotHaveResultError` of a one-of
none of whose candidates has a value, or a setup error -/
theorem C05_oneof_error_has_cause (P : Program) (val : Node → Option Val) (hone : OneP P) (hsol : SolutionOne P val)
    (s : St) (h : Reach P s) (e : Exc) (ho : s.outcome = some (.error e) ∨ s.outcome = some (.raised e)) :
    ErrCause P val e :=
  C10_error_has_cause P val hone hsol s h e ho

/-- a failure contained by a one-of never surfaces as a value: no value (other than, at worst, an exception object) is
returned when the output has none -/
theorem C05_oneof_failure_is_never_masked (P : Program) (val : Node → Option Val) (hone : OneP P)
    (hsol : SolutionOne P val) (s : St) (h : Reach P s) (hnone : val P.g.output = none) (v : Val)
    (hne : v.isExc = false) : s.outcome ≠ some (.value v) := by
  intro ho
  have := C10_returned_value P val hone hsol s h v ho hne
  rw [hnone] at this; cases this

end MLPE.Eng
