import MLPE.Proofs.Builder

/-!
# C15 — `build_dag` is a faithful translation of the declared dependencies

`Builder.build` models `build_dag` with its real LIFO worklist and per-mark graph construction.  The theorems
relate its result to the **order-free** declared relation `Reachable` (what the output needs) — so they hold for
any traversal order the worklist happens to take:

* `C15_every_needed_node_is_built`: every declared node the output can reach is in the node map (and nothing makes
  the build skip one): the worklist is complete, for graphs of any size and shape;
* `C15_every_declared_dependency_is_built`: for every reachable node and every one of its parameter marks the
  declared dependency edges are in the graph — `Input`: source → node; `RecurrentSubGraph`: destination → node and the
  (start, destination) pair; `SwitchCase`: decider → switch node, every case → switch node, switch node → node;
  `InputOneOf`: input → synthetic node, every candidate → synthetic node, synthetic node → node — no declared
  parameter is dropped; mark-less nodes get the implicit input link;
* `C15_node_map_resolves_ids`: the node map resolves every id to a declaration with exactly that id.
Attribute merging when one node binds two parameters to the same source collapses them (`addEdge` on an existing
key): that is the listed finding P8 (DESIGN §5); the differential check compares full attributes on generated
declaration sets without such parallel parameters.
-/
namespace MLPE.Builder

/-- completeness of the traversal: the build visits (and maps) every node the output needs -/
theorem C15_every_needed_node_is_built (D : Decls) (hwf : WF D) (b : Built) (hb : build D = .ok b) (c : Cls)
    (hr : Reachable D c) : D.id c ∈ keysM b.g :=
  (build_ok_reachable hwf hb hr).2.mapped

/-- no declared parameter is dropped: every mark of every needed node has its dependency edges in the built graph -/
theorem C15_every_declared_dependency_is_built (D : Decls) (hwf : WF D) (b : Built) (hb : build D = .ok b) (c : Cls)
    (hr : Reachable D c) (kw : String) (m : Mark) (hm : (kw, m) ∈ (D.get c).marks) : MarkIn D b.g c m :=
  (build_ok_reachable hwf hb hr).2.marks (kw, m) hm

/-- a node that declares no marks gets the implicit input → node link -/
theorem C15_markless_node_linked_to_input (D : Decls) (hwf : WF D) (b : Built) (hb : build D = .ok b) (c : Cls)
    (hr : Reachable D c) (hm : (D.get c).marks = []) (hne : c ≠ D.input) : (D.id D.input, D.id c) ∈ keysE b.g :=
  (build_ok_reachable hwf hb hr).2.implicit hm hne

/-- the node map resolves every id to a declaration carrying exactly that id -/
theorem C15_node_map_resolves_ids (D : Decls) (b : Built) (hb : build D = .ok b) : MapOK D b.g :=
  build_ok_mapOK hb

/-- only what the output needs is traversed: every visited node is reachable (soundness of the worklist) -/
theorem C15_only_needed_nodes_are_traversed (D : Decls) (hwf : WF D) (hok : ∀ c, Reachable D c → NodeOk D c) :
    ∃ g visited, traverse D (D.ds.length + 1) (({} : G).mapNode (D.id D.input) D.input) [D.output] [D.output]
      = .ok (g, visited) ∧ ∀ c, c ∈ visited ↔ Reachable D c :=
  traverse_visits_reachable D hwf hok

/-! Non-vacuity: a declaration set with every mark kind builds, and its node map has every declared class. -/
def demoAll : Decls :=
  { ds := [{ ident := "processor__N0", marks := [] },
           { ident := "processor__N1", marks := [("a", .input 0)], hasAdditional := true },
           { ident := "processor__N2", marks := [("a", .input 1)], isRecurrent := true },
           { ident := "processor__N3", marks := [] },
           { ident := "processor__N4", marks := [("a", .recurrent 1 2 2), ("b", .oneOf [3]),
                                               ("c", .switch 1 [("l0", 0)] "sw")] }],
    input := 0, output := 4 }

set_option maxRecDepth 4000 in
example : (match build demoAll with | .ok b => decide (b.g.nodeMap.length = 5 ∧ b.g.nodes.length = 7) | .error _ => false) = true := by
  decide +kernel

/-- **finding P8 (witness)**: a node binding two parameters to one source ends up with a single edge that carries only
the later parameter name — in the model exactly as in the real builder (replayed by the check as a KNOWN-FINDING) -/
def demoParallel : Decls :=
  { ds := [{ ident := "processor__N0", marks := [] },
           { ident := "processor__N1", marks := [("a", .input 0)] },
           { ident := "processor__N2", marks := [("a", .input 1), ("b", .input 1)] }], input := 0, output := 2 }

theorem C15_witness_parallel_parameters_collapse :
    (match build demoParallel with
      | .ok b => decide ((b.g.edges.filter (fun e => e.1 == ("processor__N1", "processor__N2"))).map (·.2.kwarg) = [some "b"])
      | .error _ => false) = true := by
  decide +kernel

end MLPE.Builder
