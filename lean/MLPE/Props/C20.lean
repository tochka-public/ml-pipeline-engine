import MLPE.Viewer

/-!
# C20 — the viewer graph description is a faithful projection of the DAG

For every DAG (any node ids, any classes) on which `config` succeeds:
* exactly one entry per DAG node, in DAG order (`C20_one_entry_per_node`); synthetic nodes (not in the node map)
  are virtual and typed by their id prefix, real nodes carry their declared name / type / documentation
  (`C20_entries_describe_their_node`);
* exactly one edge entry per DAG dependency, same endpoints, with ids that are unique whenever the dependencies are
  (`C20_one_entry_per_edge`, `C20_edge_ids_unique`);
* the node-type table covers every type that occurs (`C20_type_table_covers`);
* `config` is a function of its input: generating it cannot modify the DAG (by construction; the differential check
  compares a deep snapshot of the real DAG before and after).
-/
namespace MLPE.Viewer

/-- the entry `mkNode` produces when it produces one: a virtual node's type is its prefix type as found -/
def render (v : VIn) (id : String) : VNode :=
  match v.info id with
  | none => { id := id, isVirtual := true, isGeneric := false, type := byPrefix id, data := none }
  | some ci =>
    { id := id, isVirtual := false, isGeneric := isGenericName ci.className, type := ci.nodeType,
      data := some { name := ci.name, verboseName := ci.verboseName, doc := ci.doc, code := ci.code } }

theorem mkNode_eq_ok {v : VIn} {id : String} {n : VNode} :
    mkNode v id = .ok n ↔ (v.info id = none → (byPrefix id).isSome) ∧ render v id = n := by
  unfold mkNode render
  cases v.info id with
  | some ci => simp
  | none => cases byPrefix id <;> simp

theorem mapM'_cons_eq_ok {α β} {f : α → Except String β} {a : α} {as : List α} {r : List β} :
    mapM' f (a :: as) = .ok r ↔ ∃ b bs, f a = .ok b ∧ mapM' f as = .ok bs ∧ b :: bs = r := by
  rw [mapM']
  split
  · simp [*]
  · split <;> simp [*]

theorem mapM'_eq_ok {α β} {f : α → Except String β} {g : α → β} {p : α → Prop}
    (hf : ∀ a b, f a = .ok b ↔ p a ∧ g a = b) {l : List α} {r : List β} :
    mapM' f l = .ok r ↔ (∀ a ∈ l, p a) ∧ l.map g = r := by
  induction l generalizing r with
  | nil => simp [mapM']
  | cons a as ih =>
    simp only [mapM'_cons_eq_ok, hf, ih, List.forall_mem_cons, List.map_cons, and_assoc, exists_and_left,
      exists_eq_left']

theorem config_eq_ok {v : VIn} {colors : String → Option String} {c : Config} :
    config v colors = .ok c ↔ (∀ id ∈ v.nodes, v.info id = none → (byPrefix id).isSome) ∧
      ⟨v.nodes.map (render v), v.edges.map mkEdge, typeTable colors (v.nodes.map (render v))⟩ = c := by
  have hb : config v colors = .ok c ↔
      ∃ ns, mapM' (mkNode v) v.nodes = .ok ns ∧ ⟨ns, v.edges.map mkEdge, typeTable colors ns⟩ = c := by
    unfold config
    split <;> simp [*]
  simp only [hb, mapM'_eq_ok fun _ _ => mkNode_eq_ok, and_assoc, exists_and_left, exists_eq_left']

theorem render_id (v : VIn) (id : String) : (render v id).id = id := by
  unfold render
  split <;> rfl

/-- exactly one entry per DAG node, in the DAG's node order -/
theorem C20_one_entry_per_node (v : VIn) (colors : String → Option String) (c : Config)
    (h : config v colors = .ok c) : c.nodes.map (·.id) = v.nodes := by
  obtain ⟨_, rfl⟩ := config_eq_ok.mp h
  simp [Function.comp_def, render_id]

/-- each entry describes its node: virtual + prefix type for synthetic nodes, declared data for real ones -/
theorem C20_entries_describe_their_node (v : VIn) (colors : String → Option String) (c : Config)
    (h : config v colors = .ok c) (n : VNode) (hn : n ∈ c.nodes) :
    (v.info n.id = none ∧ n.isVirtual = true ∧ n.isGeneric = false ∧ n.type = byPrefix n.id ∧ n.type.isSome ∧ n.data = none) ∨
    (∃ ci, v.info n.id = some ci ∧ n.isVirtual = false ∧ n.type = ci.nodeType ∧
      n.data = some ⟨ci.name, ci.verboseName, ci.doc, ci.code⟩ ∧ n.isGeneric = isGenericName ci.className) := by
  obtain ⟨hp, rfl⟩ := config_eq_ok.mp h
  obtain ⟨id, hid, rfl⟩ := List.mem_map.mp hn
  cases hi : v.info id with
  | none =>
    simpa [render, hi] using hp id hid hi
  | some ci =>
    simp [render, hi]

/-- exactly one edge entry per DAG dependency, with the same endpoints, in order -/
theorem C20_one_entry_per_edge (v : VIn) (colors : String → Option String) (c : Config)
    (h : config v colors = .ok c) : c.edges.map (fun e => (e.source, e.target)) = v.edges := by
  obtain ⟨_, rfl⟩ := config_eq_ok.mp h
  simp [Function.comp_def, mkEdge]

/-- edge ids are unique whenever `source->target` names the dependencies uniquely -/
theorem C20_edge_ids_unique (v : VIn) (colors : String → Option String) (c : Config)
    (h : config v colors = .ok c) (hu : (v.edges.map fun e => e.1 ++ "->" ++ e.2).Nodup) :
    (c.edges.map (·.id)).Nodup := by
  obtain ⟨_, rfl⟩ := config_eq_ok.mp h
  simpa [Function.comp_def, mkEdge] using hu

theorem mem_typeTable (colors : String → Option String) {ns : List VNode} {n : VNode} {t : String}
    (hn : n ∈ ns) (ht : n.type = some t) : (t, colors t) ∈ typeTable colors ns := by
  induction ns with
  | nil => cases hn
  | cons m ms ih =>
    unfold typeTable
    by_cases hm : m.type = some t
    · simp [hm]
    · have := ih ((List.mem_cons.mp hn).resolve_left fun e => hm (e ▸ ht))
      split
      · exact this
      · next t' ht' =>
        exact List.mem_cons_of_mem _ (List.mem_filter.mpr ⟨this, bne_iff_ne.mpr fun (e : t = t') => hm (e ▸ ht')⟩)

/-- the node-type table covers every type that occurs -/
theorem C20_type_table_covers (v : VIn) (colors : String → Option String) (c : Config)
    (h : config v colors = .ok c) (n : VNode) (hn : n ∈ c.nodes) (t : String) (ht : n.type = some t) :
    t ∈ c.nodeTypes.map (·.1) := by
  obtain ⟨_, rfl⟩ := config_eq_ok.mp h
  exact List.mem_map_of_mem (f := (·.1)) (mem_typeTable colors hn ht)

/-- generation succeeds iff every synthetic node's id carries a known prefix (always true of built DAGs) -/
theorem C20_succeeds_on_built_dags (v : VIn) (colors : String → Option String)
    (h : ∀ id ∈ v.nodes, v.info id = none → (byPrefix id).isSome) : ∃ c, config v colors = .ok c :=
  ⟨_, config_eq_ok.mpr ⟨h, rfl⟩⟩

end MLPE.Viewer
