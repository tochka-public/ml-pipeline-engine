import MLPE.Proofs.SafeRun
import MLPE.Props.C05
import MLPE.Props.C03
import MLPE.Proofs.PlainDemo
import MLPE.Proofs.PlainSol

/-!
# C01 — the run outcome equals the dataflow semantics and is schedule-independent

**Plain pipelines (`PlainP`)**, any size and shape, arbitrary retry / default / mode settings, failures at any node
and attempt, `None` / falsy values; every interleaving of task sections, completion order of bodies and retry
timers, valid launch order, cancellation point.

The dataflow reading of the pipeline is a *solution* `val : Node → Option Val` of its equations (`Solution`):
a node has a value iff all its sources have one and the retry / default policy (`Retry.run`, the subject of C12)
applied to its body on exactly those values, under the declared parameter names, yields one.  Then, for every
execution of the engine model:

* `C01_plain_value`: if `chart.run` returns a value, it is `val output`;
* `C01_plain_error` / `C01_plain_raised`: if it returns an error result / lets a BaseException through, the
  exception is the policy's failure of a node of the pipeline all of whose sources had values (a root cause, not
  an engine artefact), wrapped iff it is an `Exception`;
* `C01_plain_cancelled_only_on_request`: `CancelledError` comes out only if the caller was cancelled;
* `C01_plain_values_agree`, `C01_plain_value_excludes_failure`: two executions of the same pipeline — whatever
  their schedules — cannot return different values, nor one a value and the other an error (with collaborators that do not raise, the fact
  of failure is schedule-independent; *which* root cause is reported when several nodes fail independently is not, and
  the theorem says it is always one of them);
* `solution_exists`: the equations have a solution for every acyclic pipeline, so the statements are not vacuous;
* in every state of a pending run — before the finishing phase (`Fin`: the outcome is decided, the caller is suspended
  in `on_pipeline_complete`) — every stored result is the solution's value (`C01_plain_results_agree`) — this is
  also what C03 (arguments are the sources' values) and C05 rest on.

Recurrent shapes: the reference evaluator `Sem` is compared with the real runs and with the
model by the monitors on every explored trace inside the fragments of DESIGN.md §6; no theorem (partial).
-/
namespace MLPE.Eng
open MLPE

/-- the step that ends a pending plain run produces an outcome explained by the solution -/
theorem C01_plain_outcome (P : Program) (d : DagRef) (val : Node → Option Val) (hp : PlainP P d) (s : St)
    (h : Live P s) (hpending : s.outcome = none) (c : Choice) (hor : OracleOK P s c) (s' : St) (obs : List Obs)
    (hs : step P s c = some (s', obs)) (o : Outcome) (ho : s'.outcome = some o) : OutcomeOK P d val s o :=
  outcome_live hp h hpending c hor (s', obs) hs o ho

/-- **C01 (plain): a returned value is the dataflow value of the output node** -/
theorem C01_plain_value (P : Program) (d : DagRef) (val : Node → Option Val) (hp : PlainP P d)
    (hsol : Solution P d val) (s : St) (h : Live P s) (hpending : s.outcome = none) (c : Choice)
    (hor : OracleOK P s c) (s' : St) (obs : List Obs) (hs : step P s c = some (s', obs)) (v : Val)
    (ho : s'.outcome = some (.value v)) : val P.g.output = some v :=
  C01_plain_outcome P d val hp s h hpending c hor s' obs hs _ ho hsol

/-- **C01 / C05 (plain): a reported error is the failure of a node of the pipeline** under the retry / default
policy, on the dataflow values of its sources — or the exception a collaborator (event manager, artifact store) raised -/
theorem C01_plain_error (P : Program) (d : DagRef) (val : Node → Option Val) (hp : PlainP P d)
    (hsol : Solution P d val) (s : St) (h : Live P s) (hpending : s.outcome = none) (c : Choice)
    (hor : OracleOK P s c) (s' : St) (obs : List Obs) (hs : step P s c = some (s', obs)) (e : Exc)
    (ho : s'.outcome = some (.error e)) : e.isException = true ∧ FailCause P d val e :=
  (C05_plain_error_is_a_required_node_failure P d val hp hsol s h hpending c hor s' obs hs _ ho).1 e rfl

/-- an exception that leaves `chart.run`: a collaborator's, or a node's `BaseException` outside `Exception` -/
theorem C01_plain_raised (P : Program) (d : DagRef) (val : Node → Option Val) (hp : PlainP P d)
    (hsol : Solution P d val) (s : St) (h : Live P s) (hpending : s.outcome = none) (c : Choice)
    (hor : OracleOK P s c) (s' : St) (obs : List Obs) (hs : step P s c = some (s', obs)) (e : Exc)
    (ho : s'.outcome = some (.raised e)) :
    CollabFails P e ∨ (e.isException = false ∧ FailCause P d val e) :=
  (C05_plain_error_is_a_required_node_failure P d val hp hsol s h hpending c hor s' obs hs _ ho).2 e rfl

theorem C01_plain_cancelled_only_on_request (P : Program) (d : DagRef) (hp : PlainP P d) (s : St)
    (h : Live P s) (hpending : s.outcome = none) (c : Choice) (hor : OracleOK P s c) (s' : St) (obs : List Obs)
    (hs : step P s c = some (s', obs)) (ho : s'.outcome = some .cancelled) :
    ∃ tk, s.tasks[0]? = some tk ∧ tk.mustCancel = true :=
  C01_plain_outcome P d (fun _ => none) hp s h hpending c hor s' obs hs _ ho

/-- every stored result of a pending run is the solution's value of its node -/
theorem C01_plain_results_agree (P : Program) (d : DagRef) (val : Node → Option Val) (hp : PlainP P d)
    (hsol : Solution P d val) (s : St) (h : Live P s) (hpending : s.outcome = none)
    (hrun : ∀ o, ¬ Fin P d val o s) (n : Node) (v : Val) (hr : s.res n = some v) : val n = some v := by
  rcases pinv_live (val := val) hp h hpending with hinv | ⟨o, hf⟩
  · exact hinv.agree hr hsol
  · exact absurd hf (hrun o)

/-- **schedule independence of the value**: two executions that both return a value return the same one -/
theorem C01_plain_values_agree (P : Program) (d : DagRef) (val : Node → Option Val) (hp : PlainP P d)
    (hsol : Solution P d val)
    (s₁ : St) (h₁ : Live P s₁) (hp₁ : s₁.outcome = none) (c₁ : Choice) (ho₁ : OracleOK P s₁ c₁) (s₁' : St)
    (obs₁ : List Obs) (hs₁ : step P s₁ c₁ = some (s₁', obs₁)) (v₁ : Val) (hv₁ : s₁'.outcome = some (.value v₁))
    (s₂ : St) (h₂ : Live P s₂) (hp₂ : s₂.outcome = none) (c₂ : Choice) (ho₂ : OracleOK P s₂ c₂) (s₂' : St)
    (obs₂ : List Obs) (hs₂ : step P s₂ c₂ = some (s₂', obs₂)) (v₂ : Val) (hv₂ : s₂'.outcome = some (.value v₂)) :
    v₁ = v₂ :=
  Option.some.inj ((C01_plain_value P d val hp hsol s₁ h₁ hp₁ c₁ ho₁ s₁' obs₁ hs₁ v₁ hv₁).symm.trans
    (C01_plain_value P d val hp hsol s₂ h₂ hp₂ c₂ ho₂ s₂' obs₂ hs₂ v₂ hv₂))

/-- **the fact of failure is schedule-independent**: if some execution reports an error (or lets a BaseException
through), no execution of the same pipeline returns a value.  `ord` is any topological order of the DAG (acyclicity);
`FeedsOutput`: every node of the DAG feeds the output (that is how the DAG is cut out of the graph) -/
theorem C01_plain_value_excludes_failure (P : Program) (d : DagRef) (val : Node → Option Val) (hp : PlainP P d)
    (hsol : Solution P d val) (hnr : ∀ e, ¬ CollabFails P e) (ord : List Node) (ht : TopoOrd P d ord)
    (hfo : FeedsOutput P d)
    (s₁ : St) (h₁ : Live P s₁) (hp₁ : s₁.outcome = none) (c₁ : Choice) (ho₁ : OracleOK P s₁ c₁) (s₁' : St)
    (obs₁ : List Obs) (hs₁ : step P s₁ c₁ = some (s₁', obs₁)) (v₁ : Val) (hv₁ : s₁'.outcome = some (.value v₁))
    (s₂ : St) (h₂ : Live P s₂) (hp₂ : s₂.outcome = none) (c₂ : Choice) (ho₂ : OracleOK P s₂ c₂) (s₂' : St)
    (obs₂ : List Obs) (hs₂ : step P s₂ c₂ = some (s₂', obs₂)) (e : Exc)
    (he₂ : s₂'.outcome = some (.error e) ∨ s₂'.outcome = some (.raised e)) : False := by
  obtain ⟨n, hn, hnf⟩ := C05_plain_error_is_a_node_failure_no_collaborator_faults P d val hp hsol hnr s₂ h₂ hp₂ c₂ ho₂
    s₂' obs₂ hs₂ e he₂
  exact C05_plain_failure_is_never_masked P d val hp hsol ord ht hfo n hn e hnf s₁ h₁ hp₁ c₁ ho₁ s₁' obs₁ hs₁ v₁ hv₁

/-- the dataflow equations always have a solution (for the launch order of any execution that got past the start
of `_run_dag`, or any other topological order) -/
theorem C01_solution_exists (P : Program) (d : DagRef) (ord : List Node) (ht : TopoOrd P d ord) :
    ∃ val, Solution P d val := solution_exists P d ord ht

/-! ### Non-vacuity: the diamond whose node 1 fails its first attempt and succeeds on the retry -/

def demoVal : Node → Option Val := fun n => if n ≤ 3 then some (.int n) else none

theorem demoVal_solution : Solution demoDiamond demoDag demoVal := ⟨by decide⟩

/-- a schedule of the diamond with the retry timer (`.timer 4`), short of its last section: the caller's, which returns -/
def demoFull : List Choice :=
  [.run 0 [] 0, .run 1 [0, 2, 1, 3] 0, .run 2 [] 0, .gate 0 0 1, .run 2 [] 0, .run 1 [] 0, .run 4 [] 0, .run 3 [] 0,
   .gate 1 0 1, .run 4 [] 0, .gate 2 0 1, .run 3 [] 0, .run 0 [] 0, .timer 4, .run 4 [] 0, .gate 1 0 2, .run 4 [] 0,
   .run 1 [] 0, .run 5 [] 0, .gate 3 0 1, .run 5 [] 0, .run 1 [] 0]

/-- the theorem applied to a complete run: the value returned is, by `C01_plain_value`, the solution's -/
example : ∃ s', liveRun demoDiamond init (demoFull ++ [.run 0 [] 0]) = some s' ∧
    s'.outcome = some (.value (.int 3)) ∧ demoVal demoDiamond.g.output = some (.int 3) := by
  obtain ⟨s', hs', ⟨s, obs, hl, ho, hor, hstep⟩, v, hv⟩ :=
    fact_of_run (fun s' => liveRun_snoc (P := demoDiamond) demoFull (.run 0 [] 0) init s' .init)
      (fun s => ∃ v, s.outcome = some (.value v)) (by decide +kernel)
  have hv3 := C01_plain_value demoDiamond demoDag demoVal demoDiamond_plain demoVal_solution s hl ho (.run 0 [] 0)
    hor s' obs hstep v hv
  have : demoVal demoDiamond.g.output = some (.int 3) := by decide
  rw [this] at hv3
  cases hv3
  exact ⟨s', hs', hv, this⟩

/-! ### Pipelines with switches (no one-of, no recurrent subgraph): safety under every schedule

`Proofs/Safe.lean` proves an invariant of every reachable state of such a program — stored results, recorded switch
decisions, body arguments, the outcome — relative to a solution `val` of the dataflow equations with switches
(`SolutionSw`).  It is partial correctness: it does not say that the run ends (for plain pipelines `C02` does). -/

/-- a switch pipeline that returns a value returns the dataflow value of its output node, under every schedule -/
theorem C01_switch_value (P : Program) (val : Node → Option Val) (hsw : SwP P) (hsol : SolutionSw P val)
    (s : St) (h : Reach P s) (v : Val) (ho : s.outcome = some (.value v)) : val P.g.output = some v :=
  outcome_value_sw hsw ((safe_reach_sw hsw hsol h).data.out (.value v) ho)

/-- whatever the schedules, two runs of a switch pipeline that return values return the same value -/
theorem C01_switch_values_agree (P : Program) (val : Node → Option Val) (hsw : SwP P) (hsol : SolutionSw P val)
    (s₁ s₂ : St) (h₁ : Reach P s₁) (h₂ : Reach P s₂) (v₁ v₂ : Val) (ho₁ : s₁.outcome = some (.value v₁))
    (ho₂ : s₂.outcome = some (.value v₂)) : v₁ = v₂ :=
  Option.some.inj ((C01_switch_value P val hsw hsol s₁ h₁ v₁ ho₁).symm.trans (C01_switch_value P val hsw hsol s₂ h₂ v₂ ho₂))

/-- a switch pipeline never returns a value when its output has none in the dataflow semantics (a required node failed,
or a decision named no case): a failure is never masked -/
theorem C01_switch_value_excludes_failure (P : Program) (val : Node → Option Val) (hsw : SwP P)
    (hsol : SolutionSw P val) (s : St) (h : Reach P s) (hnone : val P.g.output = none) (v : Val) :
    s.outcome ≠ some (.value v) :=
  C05_switch_failure_is_never_masked P val hsw hsol s h hnone v

/-- the stored results of two runs of a switch pipeline agree node by node -/
theorem C01_switch_results_agree (P : Program) (val : Node → Option Val) (hsw : SwP P) (hsol : SolutionSw P val)
    (s₁ s₂ : St) (h₁ : Reach P s₁) (h₂ : Reach P s₂) (n : Node) (v₁ v₂ : Val) (hr₁ : s₁.res n = some v₁)
    (hr₂ : s₂.res n = some v₂) : v₁ = v₂ :=
  Option.some.inj ((C03_switch_results_final P val hsw hsol s₁ h₁ n v₁ hr₁).1.symm.trans
    (C03_switch_results_final P val hsw hsol s₂ h₂ n v₂ hr₂).1)

/-! ### Pipelines with switches and one-ofs (no recurrent subgraph): safety under every schedule -/

/-- a pipeline with switches and one-ofs that returns a value (not an exception object) returns the dataflow value of its
output node — a one-of contributing the value of its first successful candidate — under every schedule -/
theorem C01_oneof_value (P : Program) (val : Node → Option Val) (hone : OneP P) (hsol : SolutionOne P val)
    (s : St) (h : Reach P s) (v : Val) (ho : s.outcome = some (.value v)) (hne : v.isExc = false) :
    val P.g.output = some v :=
  C10_returned_value P val hone hsol s h v ho hne

/-- whatever the schedules, two runs that return values return the same value -/
theorem C01_oneof_values_agree (P : Program) (val : Node → Option Val) (hone : OneP P) (hsol : SolutionOne P val)
    (s₁ s₂ : St) (h₁ : Reach P s₁) (h₂ : Reach P s₂) (v₁ v₂ : Val) (ho₁ : s₁.outcome = some (.value v₁))
    (ho₂ : s₂.outcome = some (.value v₂)) (hne₁ : v₁.isExc = false) (hne₂ : v₂.isExc = false) : v₁ = v₂ :=
  Option.some.inj ((C01_oneof_value P val hone hsol s₁ h₁ v₁ ho₁ hne₁).symm.trans
    (C01_oneof_value P val hone hsol s₂ h₂ v₂ ho₂ hne₂))

end MLPE.Eng
