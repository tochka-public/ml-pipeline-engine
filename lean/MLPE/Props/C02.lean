import MLPE.Proofs.PlainDemo
import MLPE.Proofs.WakeUp
import MLPE.Proofs.LiveCheck

/-!
# C02 — every run terminates: no deadlock or lost wake-up under any schedule

**Plain pipelines (`PlainP`)**: only `Input` dependencies; any number of nodes, any DAG shape; arbitrary retry /
default / execution-mode settings; node failures anywhere, at any attempt; `None` / falsy results; collaborators (event
managers, artifact store) that **suspend** any number of times inside any callback, and may **raise**: an event-manager callback or the artifact store failing at any call site
(`cbRaise`).  Quantified over every interleaving of task sections, every completion order of node bodies and retry
timers, every launch order a topological sort may produce, and cancellation of the caller at any point:

* `C02_plain_no_stuck_state`: while the run is pending, the engine model is never in a state in which the loop is idle
  (no task can run), nothing external is outstanding (no node body, no timer) — the deadlock / lost-wake-up state is
  unreachable;
* `C02_plain_invariant`: the invariant behind it (`PInv`): the launcher has created a task for exactly a prefix of
  the topological order, every blocked waiter's predicate is false (no lost wake-up: the launcher blocked on
  `cond[m]` ⇒ some source of `m` is not *settled* — no result, or the result is stored but its task is still inside
  `artifact_store.save` and has not sent its `finally` notifications; blocked on `cond[dest]` ⇒ the output is not
  settled; the caller blocked on `cond['run']` ⇒ no task failed and the output is not settled), node tasks wait only
  for their own body or timer or are suspended in a collaborator, nobody is cancelled — until `manager.run` leaves;
  then the finishing phase `Fin` (outcome decided, all other tasks cancel-marked, the caller possibly suspended in
  `on_pipeline_complete`).

**All programs, all states — wake-up completeness of a finishing node** (`C02_finished_node_wakes_every_consumer`,
`C02_returning_switch_wakes_its_consumers`): when the task that ran (or waited for) node `u` leaves `_run_node`, no other
task remains blocked on the condition of a node that reads `u` — directly, or through a switch node that `u` decides or is
a case of (`__get_descendants` passes through switch nodes: the historic hangs P4 / P13) —, on `cond['run']`, or on the
event of `u`; when `_run_switch` returns, nobody remains blocked on the condition of a consumer of the switch.

**Pipelines with switches (`LiveP`)** — any number of `SwitchCase`s, nested through case sub-DAGs, shared case nodes,
cases that are computed before the decision is known (the historic hangs P4 / P13), any retry / default / execution-mode
settings, node failures anywhere, collaborators that may **raise** at any call site but complete **without suspending**.
Quantified over every interleaving of task sections, every completion order of node bodies and retry timers, and every
admissible launch order:

* `C02_switch_no_stuck_state`: while `chart.run` has not returned, the model is never in the idle-and-pending state;
* `C02_switch_invariant`: the invariant behind it (`Struct`, `Proofs/Live.lean`): every task is described by its name and
  frame stack; no lost wake-up — `run()` blocked ⇒ no task has failed and the output has no result; a node's waiter
  blocked ⇒ the node is being executed by a live task; a launch loop blocked on `cond[m]` ⇒ `m` is not ready, or it
  became ready because a switch recorded its decision when the selected case had already been computed, and then the
  `_run_switch` task of that switch has not returned yet (it notifies the consumers when it does).  A state that
  satisfies `Struct` is not stuck by induction on the depth of the node a blocked launch loop waits for
  (`struct_live`);
* `C02_switch_hypotheses_from_check`: `LiveP` follows from the executable check `livePB` (acyclicity by a depth table,
  case labels only on edges from ordinary nodes into switch nodes, every reduced DAG the engine builds — up to the output,
  up to a case node — exists, ends in its destination, is closed under dependencies); the driver evaluates the check on
  the generated programs.

One-of / recurrent shapes, and switches with suspending collaborators: the model is tied to the code by lock-step on
all of them, the exact deadlock verdict of the stepping loop is compared with the model's `stuck` predicate on every
explored trace, the explorer searches the model's state space of small programs for a stuck state, and the historic
deadlocks (P1–P4, P13, P16) are regression programs; a liveness *theorem* for them is not claimed, and C02 is labelled
partial for those shapes.
-/
namespace MLPE.Eng
open MLPE

/-- **C02 (plain pipelines): the stuck state is unreachable** -/
theorem C02_plain_no_stuck_state (P : Program) (d : DagRef) (hp : PlainP P d) (s : St) (h : Live P s)
    (hpending : s.outcome = none) : stuck s = false := by
  rcases pinv_live (val := fun _ => none) hp h hpending with hinv | ⟨o, hf⟩
  · exact pinv_not_stuck hp hinv
  · -- finishing phase: the caller itself is runnable
    obtain ⟨j, mc, hc0⟩ := hf.caller
    exact not_stuck_of_live hc0 (.inl ⟨_, rfl⟩)

/-- the invariant of plain runs holds in every state of a pending run, until `manager.run` has left (then the run is
in the finishing phase `Fin`: outcome decided, everybody else cancel-marked, the caller suspended in
`on_pipeline_complete`) -/
theorem C02_plain_invariant (P : Program) (d : DagRef) (hp : PlainP P d) (s : St) (h : Live P s)
    (hpending : s.outcome = none) : PInv P d (fun _ => none) s ∨ ∃ o, Fin P d (fun _ => none) o s :=
  pinv_live hp h hpending

/-- no lost wake-up, spelled out for the launcher: if the main `_run_dag` task sits in its launch loop at node `m` and
is blocked, then some dependency of `m` is not *settled* — its result is not stored, or it is stored but the node's
task has not finished yet (the artifact store is still saving), so the `notify` of that dependency's `finally` is still
to come -/
theorem C02_plain_launcher_blocked_legitimately (P : Program) (d : DagRef) (hp : PlainP P d) (s : St) (h : Live P s)
    (hpending : s.outcome = none) (tk : Task) (m : Node) (rest : List Node) (h1 : s.tasks[1]? = some tk)
    (hf : tk.frames = [.dagLaunch d (m :: rest)]) (hb : tk.st ≠ .runnable .go) (hmc : tk.mustCancel = false)
    (hnd : tk.isDone = false) :
    tk.st = .blocked (.cond (.node m)) ∧ ¬ ReadyA P s m := by
  rcases pinv_live (val := fun _ => none) hp h hpending with hinv | ⟨o, hfin⟩
  · rcases hinv.rest with ⟨h0, _⟩ | ⟨L, hl, ⟨mtk, hm1, hmok⟩, _, _⟩
    · have := getElem?_lt h1; omega
    · rw [h1] at hm1; cases hm1
      cases hmok with
      | waitNode m' rest' _ h2 => cases hf; exact ⟨rfl, h2⟩
      | launching => exact absurd rfl hb
      | init | waitingDest | waitDest | done => cases hf
  · -- finishing phase: every other task is finished or cancel-marked
    have := (hfin.others 1 tk (by omega) h1).1
    simp [Task.marked, hnd, hmc] at this

/-! ### Pipelines with switches -/

/-- **C02 (pipelines with switches): the stuck state is unreachable** -/
theorem C02_switch_no_stuck_state (P : Program) (depth : Node → Nat) (hp : LiveP P depth) (s : St)
    (h : LiveReach P s) : stuck s = false :=
  live_not_stuck hp h

/-- the invariant of pending switch runs: it holds in every state reached before `chart.run` returns -/
theorem C02_switch_invariant (P : Program) (depth : Node → Nat) (hp : LiveP P depth) (s : St) (h : LiveReach P s)
    (hpending : s.outcome = none) : Struct P depth s := by
  rcases live_inv hp h with h1 | h1
  · exact absurd hpending h1
  · exact h1

/-- a state that satisfies the invariant has a task that can make progress by itself -/
theorem C02_switch_invariant_is_live (P : Program) (depth : Node → Nat) (hp : LiveP P depth) (s : St)
    (hs : Struct P depth s) : ∃ (i : Nat) (tk : Task), s.tasks[i]? = some tk ∧ tk.live :=
  struct_live hp hs

/-- the hypotheses follow from the executable check -/
theorem C02_switch_hypotheses_from_check (P : Program) (dl : List (Node × Nat)) (hsw : SwP P)
    (hy : ∀ cb n, P.cbYield cb n = 0) (hc : livePB P dl = true) :
    LiveP P (depthOf dl) :=
  liveP_of_check dl hsw hy hc

/-- the runs of the theorem are runs of the model -/
theorem C02_switch_runs_are_reachable (P : Program) (s : St) (h : LiveReach P s) : Reach P s := h.reach

/-! ### All programs: the notifications of a finishing node reach every consumer -/

/-- **no lost wake-up at node completion**: in the state the normal exit of `_run_node` for node `u` leaves behind, no
*other* task is blocked on `cond[m]` for a node `m` that reads `u` directly (`e.u = u`, `e.v = m`) or reads a switch node
that `u` feeds (`u → S → m`), nor on `cond['run']`, nor on the event of `u`, nor on `cond[u]` itself (a one-of waits there
for its candidate, whichever DAG executed it: fix 07dff2b) -/
theorem C02_finished_node_wakes_every_consumer (c : Ctx) (s : St) (obs : List Obs) (d : DagRef) (u : Node)
    (below : List Frame) (hn : 2 ≤ c.P.g.nodes.length) (i : Nat) (hi : i ≠ c.t) (tk : Task)
    (htk : (nodeFinish c s obs d u below).1.tasks[i]? = some tk) :
    (∀ e ∈ c.P.g.edges, e.u = u → tk.st ≠ .blocked (.cond (.node e.v))) ∧
    (∀ e1 ∈ c.P.g.edges, ∀ e2 ∈ c.P.g.edges, e1.u = u → e1.v = e2.u → c.P.g.isSwitch e1.v = true →
      tk.st ≠ .blocked (.cond (.node e2.v))) ∧
    tk.st ≠ .blocked (.cond .run) ∧ tk.st ≠ .blocked (.event u) ∧ tk.st ≠ .blocked (.cond (.node u)) := by
  obtain ⟨h1, h2, h3, h4⟩ := nodeFinally_wakes c.P s d u
  have hsame : ∀ j, j ≠ c.t → (nodeFinish c s obs d u below).1.tasks[j]? = (nodeFinally c.P s d u true).tasks[j]? :=
    fun j hj => retTo_others c _ obs below .none j hj
  have hne : c.P.g.nodes ≠ [] := by intro h0; rw [h0] at hn; simp at hn
  refine ⟨?_, ?_, others_not_blocked hsame h2 i hi tk htk, others_not_blocked hsame h1 i hi tk htk,
    others_not_blocked hsame h4 i hi tk htk⟩
  · intro e he hu
    refine others_not_blocked hsame (h3 e.v ?_) i hi tk htk
    rw [← hu]; exact mem_desc1_of_edge c.P.g e he hne
  · intro e1 he1 e2 he2 hu hv hS
    refine others_not_blocked hsame (h3 e2.v ?_) i hi tk htk
    rw [← hu]; exact mem_desc1_through_switch c.P.g e1 e2 he1 he2 hv hS hn

/-- the same on the failure path: a collaborator's exception leaving `_run_node` still runs the `finally` -/
theorem C02_failing_node_wakes_run_and_consumers (c : Ctx) (s : St) (obs : List Obs) (d : DagRef) (u : Node)
    (below : List Frame) (e : Exc) (hn : 2 ≤ c.P.g.nodes.length) :
    nodeCbRaise c s obs d u below e = raiseOut c (nodeFinally c.P s d u true) obs below (.exc e) ∧
    NoneBlocked (nodeFinally c.P s d u true) (.cond .run) ∧
    ∀ ed ∈ c.P.g.edges, ed.u = u → NoneBlocked (nodeFinally c.P s d u true) (.cond (.node ed.v)) := by
  obtain ⟨_, h2, h3, _⟩ := nodeFinally_wakes c.P s d u
  have hne : c.P.g.nodes ≠ [] := by intro h0; rw [h0] at hn; simp at hn
  refine ⟨rfl, h2, ?_⟩
  intro ed he hu
  exact h3 ed.v (by rw [← hu]; exact mem_desc1_of_edge c.P.g ed he hne)

/-- **when `_run_switch` returns, every consumer of the switch is woken** (the selected case may have been computed
before the switch was resolved: nobody else would notify them — the historic hang P4) -/
theorem C02_returning_switch_wakes_its_consumers (P : Program) (s : St) (S : Node) (hn : P.g.nodes ≠ []) :
    ∀ e ∈ P.g.edges, e.u = S → NoneBlocked (notifyAll s ((P.g.desc1 S).map Key.node)) (.cond (.node e.v)) := by
  intro e he hu
  refine notifyAll_noneBlocked _ _ _ (List.mem_map.mpr ⟨e.v, ?_, rfl⟩)
  rw [← hu]; exact mem_desc1_of_edge P.g e he hn

/-! ### Non-vacuity

The hypotheses are satisfiable by non-trivial programs: a diamond `0 → {1, 2} → 3` whose node 1 fails its first
attempt and is retried is a plain program (`PlainP`, by evaluating `plainCheck`), and running it for a few sections
(start of `chart.run`, DAG launch, first node tasks) gives live, pending, non-initial states to which the theorems
apply.  The driver additionally evaluates `plainCheck` on every generated plain program (see evidence). -/

/-- the theorems apply to a genuine mid-run state: it is live and pending, a retry timer is outstanding, two node tasks
are done, the launcher is blocked — and (by the theorem, not by evaluation) it is not stuck -/
example : ∃ s, liveRun demoDiamond init demoSchedule = some s ∧ Live demoDiamond s ∧ s.outcome = none ∧
    s.tasks.length = 5 ∧ stuck s = false := by
  obtain ⟨s, hs, hl, ho, hlen⟩ := fact_of_run (fun s => live_of_liveRun (P := demoDiamond) demoSchedule init s .init)
    (fun s => s.outcome = none ∧ s.tasks.length = 5) (by decide +kernel)
  exact ⟨s, hs, hl, ho, hlen, C02_plain_no_stuck_state _ _ demoDiamond_plain s hl ho⟩

/-- the diamond with an artifact store that suspends once while saving node 0's value -/
def demoDiamondCb : Program :=
  { demoDiamond with cbYield := fun cb n => match cb, n with | .save, 0 => 1 | _, _ => 0 }

/-- `PlainP` does not speak of the suspensions of the collaborators -/
theorem demoDiamondCb_plain : PlainP demoDiamondCb demoDag := { demoDiamond_plain with }

/-- node 0 has produced its value and stored it, its task is suspended inside `artifact_store.save`, nobody has been
notified yet: the launcher is still blocked on `cond[2]` although node 2 *is* ready — the situation the `Settled`
clause of the invariant is about.  By the theorem this state is not stuck (the saving task will run and notify). -/
example : ∃ s, liveRun demoDiamondCb init
      [.run 0 [] 0, .run 1 [0, 2, 1, 3] 0, .run 2 [] 0, .gate 0 0 1, .run 2 [] 0] = some s ∧
    (s.res 0).isSome = true ∧ (∃ tk, s.tasks[1]? = some tk ∧ tk.st = .blocked (.cond (.node 2))) ∧
    stuck s = false := by
  obtain ⟨s, hs, hl, ho, hres, hblk⟩ := fact_of_run (fun s => live_of_liveRun (P := demoDiamondCb)
      [.run 0 [] 0, .run 1 [0, 2, 1, 3] 0, .run 2 [] 0, .gate 0 0 1, .run 2 [] 0] init s .init)
    (fun s => s.outcome = none ∧ (s.res 0).isSome = true ∧
      s.tasks[1]?.any (fun tk : Task => decide (tk.st = .blocked (.cond (.node 2)))) = true) (by decide +kernel)
  obtain ⟨tk, h1, h2⟩ := (Option.any_eq_true _ _).mp hblk
  exact ⟨s, hs, hres, ⟨tk, h1, of_decide_eq_true h2⟩, C02_plain_no_stuck_state _ _ demoDiamondCb_plain s hl ho⟩

end MLPE.Eng
