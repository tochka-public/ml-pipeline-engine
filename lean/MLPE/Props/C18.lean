import MLPE.Proofs.Store

/-!
# C18 — the filesystem artifact store is a write-once map keyed exactly by node id

Property theorems only (helper lemmas live in `MLPE/Proofs/Store.lean`).
Quantification: every codec with a round trip, every finite sequence of `save`/`load`
operations over arbitrary contexts and node ids (strings; the id is used verbatim as a file-name
stem, so dots, glob metacharacters and prefixes of other ids are all covered).
-/

namespace MLPE.Store

variable {V B : Type}

/-- **C18 (refinement)**: started from an empty directory, any operation sequence produces exactly
the results of the write-once map `Key → Option V`, and the directory keeps denoting that map. -/
theorem C18_refines_map (c : Codec V B) (hrt : c.RoundTrip) (ops : List (Op V)) :
    (run c FS.empty ops).2 = (specRun (canEnc c) Spec.empty ops).2 ∧
    abs c (run c FS.empty ops).1 = (specRun (canEnc c) Spec.empty ops).1 := by
  have h := run_refines hrt ops (fs := FS.empty) fun _ _ => rfl
  exact ⟨h.1, h.2.1⟩

/-- no operation sequence ever yields a file that exists but cannot be decoded (no torn file). -/
theorem C18_never_corrupt (c : Codec V B) (hrt : c.RoundTrip) (ops : List (Op V)) :
    Res.corrupt ∉ (run c FS.empty ops).2 := by
  rw [(C18_refines_map c hrt ops).1]
  generalize (Spec.empty : Spec V) = m
  induction ops generalizing m with
  | nil => simp [specRun]
  | cons op ops ih =>
    simp only [specRun, List.mem_cons, not_or]
    refine ⟨?_, ih _⟩
    cases op with
    | save k v f =>
      simp only [specStep]
      split
      · simp
      · split <;> simp
    | load k => simp only [specStep]; split <;> simp

/-! The clauses of the property, read off the spec (they hold of the implementation model by
`C18_refines_map`). `m` is any abstract state. -/

/-- load returns what was saved under exactly that key, in either format -/
theorem C18_load_after_save (canE : Fmt → V → Bool) (m : Spec V) (k : Key) (v : V) (f : Fmt)
    (hfree : m k = none) (henc : canE f v = true) :
    (specStep canE (specStep canE m (.save k v f)).1 (.load k)).2 = .value v := by
  simp [specStep, hfree, henc]

/-- a second save under an existing key is rejected and leaves the stored value intact -/
theorem C18_second_save_rejected (canE : Fmt → V → Bool) (m : Spec V) (k : Key) (v v' : V) (f : Fmt)
    (h : m k = some v) :
    specStep canE m (.save k v' f) = (m, .alreadyExists) := by
  simp [specStep, h]

/-- load of a key never saved is rejected -/
theorem C18_load_absent (canE : Fmt → V → Bool) (m : Spec V) (k : Key) (h : m k = none) :
    specStep canE m (.load k) = (m, .doesNotExist) := by
  simp [specStep, h]

/-- a failed save does not make the key appear saved -/
theorem C18_failed_save_leaves_nothing (canE : Fmt → V → Bool) (m : Spec V) (k : Key) (v : V) (f : Fmt)
    (hfree : m k = none) (henc : canE f v = false) :
    specStep canE m (.save k v f) = (m, .dumpFailed) := by
  simp [specStep, hfree, henc]

/-- distinct keys never alias: a save under `k` changes no other key -/
theorem C18_no_alias (canE : Fmt → V → Bool) (m : Spec V) (k k' : Key) (v : V) (f : Fmt)
    (hne : k' ≠ k) : (specStep canE m (.save k v f)).1 k' = m k' := by
  simp only [specStep]
  split
  · rfl
  · split <;> simp [hne]

/-- the same on the file level: two (key, format) pairs share a file name only if they are equal -/
theorem C18_file_names_injective {k k' : Key} {f f' : Fmt} (h : pathOf k f = pathOf k' f') :
    k = k' ∧ f = f' := pathOf_inj h

/-! Non-vacuity: a codec with a round trip exists and a non-trivial history meets the hypotheses. -/
def demoCodec : Codec String (Fmt × String) where
  enc := fun f v => if v = "unserializable" then none else some (f, v)
  dec := fun f b => if b.1 = f then some b.2 else none

example : demoCodec.RoundTrip := by
  intro f v b h
  simp only [demoCodec] at h ⊢
  split at h
  · cases h
  · cases h; simp

example :
    let k1 : Key := ⟨⟨"m", "p"⟩, "x"⟩
    let k2 : Key := ⟨⟨"m", "p"⟩, "x.y"⟩
    (run demoCodec FS.empty
      [.save k2 "v2" .pickle, .load k1, .save k1 "v1" .json, .load k1, .load k2,
       .save k1 "other" .pickle, .save ⟨⟨"m", "q"⟩, "x"⟩ "unserializable" .json, .load ⟨⟨"m", "q"⟩, "x"⟩]).2
    = [.ok, .doesNotExist, .ok, .value "v1", .value "v2", .alreadyExists, .dumpFailed, .doesNotExist] := by
  decide

end MLPE.Store
