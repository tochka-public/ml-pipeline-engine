import MLPE.Sem
import MLPE.Proofs.EngBasic

/-!
# C17 — execution mode is transparent; a missing pool fails fast

* The specification `Sem` never looks at the execution mode: the declared outcome is the same under every assignment
  of modes (`C17_semantics_ignores_mode`).  With C01 (engine outcome = `Sem`, every mode assignment) this is mode
  transparency of the engine.
* In the engine model the mode decides only *whether the task suspends* while the body runs: the outcome handed to
  the retry policy is `P.body n kwargs inv att` in every mode (`C17_mode_changes_only_the_suspension`).
* If a pool the DAG needs is not registered or has been shut down (`poolsOk = false`, `DAG._validate_pool_executors`),
  the run ends with an error result before anything is spawned: no node body, no engine task
  (`C17_missing_pool_fails_fast`).
Not carried by the model: real thread / process timing, pickling, fork — the check runs real pools and compares the
outcome with `Sem` (differential, labelled as such in the evidence).
-/
namespace MLPE

/-- the retry policy never reads the execution mode: `Retry.decide` and `delayEff` project other fields only (`rfl`),
and the attempt loop follows by induction -/
theorem run_mode (cfg : NodeCfg) (md : Mode) : Retry.run { cfg with mode := md } = Retry.run cfg := by
  have hl : ∀ outcomes fuel k,
      Retry.loop { cfg with mode := md } outcomes fuel k = Retry.loop cfg outcomes fuel k := by
    intro outcomes fuel
    induction fuel with
    | zero => intro k; rfl
    | succ fuel ih =>
      intro k
      simp only [Retry.loop, ih]
      rfl
  funext outcomes
  exact hl outcomes _ 1

def Program.withModes (P : Program) (m : Node → Mode) : Program :=
  { P with cfg := fun n => { P.cfg n with mode := m n } }

theorem applyNode_withModes (P : Program) (m : Node → Mode) :
    Sem.applyNode (P.withModes m) = Sem.applyNode P := by
  funext n kw inv
  simp only [Sem.applyNode, Program.withModes, run_mode]

theorem evalPlain_withModes (P : Program) (m : Node → Mode) :
    Sem.evalPlain (P.withModes m) = Sem.evalPlain P := by
  funext rec n st
  unfold Sem.evalPlain
  rw [applyNode_withModes]
  rfl

theorem recLoop_withModes (P : Program) (m : Node → Mode) :
    Sem.recLoop (P.withModes m) = Sem.recLoop P := by
  funext rec n start sub left
  induction left with
  | zero => rfl
  | succ left ih =>
    funext r st
    simp only [Sem.recLoop, evalPlain_withModes, ih]

theorem eval_withModes (P : Program) (m : Node → Mode) (fuel : Nat) :
    Sem.eval (P.withModes m) fuel = Sem.eval P fuel := by
  induction fuel with
  | zero => rfl
  | succ fuel ih =>
    funext n st
    unfold Sem.eval
    rw [ih, evalPlain_withModes, recLoop_withModes]
    -- what is left differs in projections of `withModes` only; `rfl` on the whole equation does not come back
    rfl

/-- **the declared outcome does not depend on the execution modes** -/
theorem C17_semantics_ignores_mode (P : Program) (m : Node → Mode) :
    (Sem.run (P.withModes m)).1 = (Sem.run P).1 := by
  unfold Sem.run
  rw [eval_withModes]
  rfl

namespace Eng

/-- in the engine model the body's outcome for attempt `k` is `P.body n kw inv k` whatever the mode; the mode only
decides whether the task runs it inline or suspends until it completes -/
theorem C17_mode_changes_only_the_suspension (c : Ctx) (s : St) (obs : List Obs) (d : DagRef) (n : Node)
    (below : List Frame) (k : Nat) (kw : Kwargs) (inv : Nat) :
    nodeAttempt c s obs d n false below k kw inv =
      match (c.P.cfg n).mode with
      | .inline => nodeAfterBody c s (obs ++ [.body n inv k kw]) d n false below k kw inv (c.P.body n kw inv k)
      | _ => block c s (obs ++ [.body n inv k kw] ++ [.gate n inv k]) (.node d n false (.body k kw inv) :: below)
               (.gate n inv k (c.P.body n kw inv k)) := by
  simp only [nodeAttempt, Bool.false_eq_true, if_false]
  cases (c.P.cfg n).mode <;> rfl

/-- when the awaited body completes, the very same policy step runs as in the inline case -/
theorem C17_completion_runs_same_policy_step (c : Ctx) (s : St) (d : DagRef) (n : Node) (force : Bool)
    (below : List Frame) (k : Nat) (kw : Kwargs) (inv : Nat) (o : BodyOutcome) (tk : Task)
    (h : s.tasks[c.t]? = some tk) (hm : tk.mustCancel = false)
    (hf : tk.frames = .node d n force (.body k kw inv) :: below) (hst : tk.st = .runnable (.body o)) :
    stepTask c s = some (nodeAfterBody c s [] d n force below k kw inv (c.P.body n kw inv k)) := by
  simp [stepTask, h, hm, hf, hst]

/-- **a missing pool fails fast**: error result, nothing spawned, no node body -/
theorem C17_missing_pool_fails_fast (c : Ctx) (s : St) (obs : List Obs) (h : c.P.poolsOk = false) :
    mgrBegin c s obs = mgrComplete c s obs (.error ⟨"Other:RuntimeError", 0, 0, 0⟩) := by
  simp [mgrBegin, h]

theorem C17_fail_fast_spawns_nothing (c : Ctx) (s : St) (obs : List Obs) (o : Outcome) :
    (mgrComplete c s obs o).1.tasks.length = s.tasks.length := by
  obtain ⟨obs', fs, st, e⟩ := mgrComplete_tasks c s obs o
  rw [e, finish_len]

end Eng
end MLPE
