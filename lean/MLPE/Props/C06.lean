import MLPE.Proofs.PlainDemo

/-!
# C06 — independent nodes of equal depth run concurrently

In a pipeline of plain `Input` dependencies: hold the bodies of the running nodes open for as long as you like and
let the engine do everything it can do without them (`idle`: no engine task is runnable).  Then every node all of whose
lower-depth nodes have completed **has been started** — it was not kept waiting for a sibling.

The launch loop of `_run_dag` walks the list `_get_node_order` returned and blocks at the first node that is not
ready, so the property depends on that list being sorted by depth ("generation by generation", which is how
`networkx.topological_sort` produces it).  The model takes the list as an oracle input; the theorem assumes what the
property's anchor says about it — *the node the launcher is blocked on is of minimal depth among the nodes not yet
launched* — and the check verifies that assumption on every list the real `_get_node_order` returns
(`c06_oracle` in `harness/monitors.py`), as well as the conclusion itself on hold-one-depth-open schedules.
-/
namespace MLPE.Eng
open MLPE

/-- everything that can run without a node body or a timer completing has run -/
def idle (s : St) : Prop := ∀ (i : Nat) (tk : Task), s.tasks[i]? = some tk → isRunnable tk = false

/-- the assumption on the oracle: the launcher's current node is of minimal depth among the nodes still to launch -/
def LaunchByDepth (d : DagRef) (depth : Node → Nat) (s : St) : Prop :=
  ∀ tk m rest, s.tasks[1]? = some tk → tk.frames = [.dagLaunch d (m :: rest)] → ∀ b ∈ rest, depth m ≤ depth b

theorem started_of_launched {P : Program} {d : DagRef} {val : Node → Option Val} {s : St} {L : List Node}
    (hnodes : ∀ i (h : i < L.length), ∃ tk, s.tasks[2 + i]? = some tk ∧ NodeTaskOK P d val s L[i] tk)
    (hidle : idle s) {n : Node} (hn : n ∈ L) : s.proc n = true := by
  obtain ⟨i, hi, rfl⟩ := List.getElem_of_mem hn
  obtain ⟨tk, htk, hok⟩ := hnodes i hi
  exact (hok.of_not_runnable (hidle _ _ htk)).1

/-- **C06 (plain pipelines)**: in an idle state of a pending run, every node whose lower depths have all completed
has been started, whatever the other nodes of its depth are doing -/
theorem C06_plain_next_depth_started (P : Program) (d : DagRef) (hp : PlainP P d) (s : St) (h : Live P s)
    (hpending : s.outcome = none) (hidle : idle s)
    (depth : Node → Nat) (hdepth : ∀ n ∈ d.nodes, ∀ p ∈ P.g.preds n, depth p < depth n)
    (hord : LaunchByDepth d depth s)
    (n : Node) (hn : n ∈ d.nodes) (hlow : ∀ m ∈ d.nodes, depth m < depth n → (s.res m).isSome = true) :
    s.proc n = true := by
  have hinv : PInv P d (fun _ => none) s := by
    rcases pinv_live (val := fun _ => none) hp h hpending with hinv | ⟨o, hfin⟩
    · exact hinv
    · -- finishing phase: the caller is runnable, the state is not idle
      obtain ⟨j, mc, hc0⟩ := hfin.caller
      cases hidle _ _ hc0
  rcases hinv.rest with ⟨h1, _⟩ | ⟨L, hlen, ⟨mtk, hm1, hmok⟩, hnodes, hfresh⟩
  · obtain ⟨ctk, hc0, hcok⟩ := hinv.caller
    have hr := hidle _ _ hc0
    cases hcok with
    | waiting h2 => omega
    | start | woken | cbStart => cases hr
  · have hr := hidle _ _ hm1
    cases hmok with
    | init | launching | waitingDest => cases hr
    | waitNode m rest ht hnr =>
      have hmem : n ∈ L ++ m :: rest := (ht.same n).mpr hn
      rcases List.mem_append.mp hmem with hL | hR
      · exact started_of_launched hnodes hidle hL
      · -- n is not launched yet: then the launcher's node m is not deeper than n, and m is not ready
        exfalso
        have hmn : depth m ≤ depth n := by
          rcases List.mem_cons.mp hR with rfl | hrest
          · exact Nat.le_refl _
          · exact hord _ m rest hm1 rfl n hrest
        have hmd : m ∈ d.nodes := (ht.same m).mp (by simp)
        -- every source of m has a lower depth, hence a result; its task is launched and — the state being idle —
        -- not suspended in the artifact store: it is settled
        apply hnr
        intro p hp1
        have hpd : p ∈ d.nodes := hp.predsIn m hmd p hp1
        have hres := hlow p hpd (Nat.lt_of_lt_of_le (hdepth m hmd p hp1) hmn)
        have hpl := ht.preds_launched p hp1
        obtain ⟨i, hi, rfl⟩ := List.getElem_of_mem hpl
        obtain ⟨tk, htk, hok⟩ := hnodes i hi
        have hrr := hidle _ _ htk
        exact ⟨hres, 2 + i, tk, htk, hok.name_eq.1, (hok.of_res hres).2.resolve_left (by rw [hrr]; simp)⟩
    | waitDest ht => exact started_of_launched hnodes hidle ((ht.same n).mpr hn)
    | done ht => exact started_of_launched hnodes hidle ((ht.same n).mpr hn)

/-- two siblings (same depth, all lower depths complete) are both started, i.e. in flight together until one of
them completes -/
theorem C06_plain_siblings_together (P : Program) (d : DagRef) (hp : PlainP P d) (s : St) (h : Live P s)
    (hpending : s.outcome = none) (hidle : idle s)
    (depth : Node → Nat) (hdepth : ∀ n ∈ d.nodes, ∀ p ∈ P.g.preds n, depth p < depth n)
    (hord : LaunchByDepth d depth s) (a b : Node) (ha : a ∈ d.nodes) (hb : b ∈ d.nodes) (hab : depth a = depth b)
    (hlow : ∀ m ∈ d.nodes, depth m < depth a → (s.res m).isSome = true) :
    s.proc a = true ∧ s.proc b = true :=
  ⟨C06_plain_next_depth_started P d hp s h hpending hidle depth hdepth hord a ha hlow,
   C06_plain_next_depth_started P d hp s h hpending hidle depth hdepth hord b hb (by rw [← hab]; exact hlow)⟩

/-! ### Non-vacuity: the diamond `0 → {1, 2} → 3`, node 0 complete, bodies of 1 and 2 held open -/

def launchByDepthB (d : DagRef) (depth : Node → Nat) (s : St) : Bool :=
  match s.tasks[1]? with
  | some tk => match tk.frames with
    | [.dagLaunch d' (m :: rest)] => d' != d || rest.all (fun b => depth m ≤ depth b)
    | _ => true
  | none => true

theorem launchByDepth_of_b {d : DagRef} {depth : Node → Nat} {s : St} (h : launchByDepthB d depth s = true) :
    LaunchByDepth d depth s := by
  intro tk m rest h1 h2 b hb
  simp only [launchByDepthB, h1, h2, bne_self_eq_false, Bool.false_or, List.all_eq_true, decide_eq_true_eq] at h
  exact h b hb

def demoDepth : Node → Nat := fun n => if n = 0 then 0 else if n = 3 then 2 else 1

def demoHold : List Choice :=
  [.run 0 [] 0, .run 1 [0, 2, 1, 3] 0, .run 2 [] 0, .gate 0 0 1, .run 2 [] 0, .run 1 [] 0, .run 4 [] 0, .run 3 [] 0,
   .run 0 [] 0]

example : ∃ s, liveRun demoDiamond init demoHold = some s ∧ idle s ∧ (s.res 1).isNone ∧ (s.res 2).isNone ∧
    s.proc 1 = true ∧ s.proc 2 = true := by
  obtain ⟨s, hs, hl, ho, hall, hord, h0, h1, h2⟩ :=
    fact_of_run (fun s => live_of_liveRun (P := demoDiamond) demoHold init s .init)
      (fun s => s.outcome = none ∧ s.tasks.all (fun tk => !isRunnable tk) = true ∧
        launchByDepthB demoDag demoDepth s = true ∧ (s.res 0).isSome = true ∧ (s.res 1).isNone = true ∧
        (s.res 2).isNone = true) (by decide +kernel)
  have hidle : idle s := idle_of_all hall
  have hdepth : ∀ n ∈ demoDag.nodes, ∀ p ∈ demoDiamond.g.preds n, demoDepth p < demoDepth n := by decide
  have hlow : ∀ m ∈ demoDag.nodes, demoDepth m < 1 → (s.res m).isSome = true := by
    intro m hm hd
    have : m = 0 := by
      simp only [demoDag, List.mem_cons, List.not_mem_nil, or_false] at hm
      rcases hm with rfl | rfl | rfl | rfl <;> simp [demoDepth] at hd ⊢
    subst this; exact h0
  have h12 := C06_plain_siblings_together demoDiamond demoDag demoDiamond_plain s hl ho hidle demoDepth hdepth
    (launchByDepth_of_b hord) 1 2 (by decide) (by decide) rfl hlow
  exact ⟨s, hs, hidle, h1, h2, h12⟩

end MLPE.Eng
