import MLPE.Proofs.SafeRun
import MLPE.Proofs.Retry
import MLPE.Proofs.Budget
import MLPE.Proofs.PlainDemo

/-!
# C12 — retry and default policy is applied exactly as configured

`Retry.run cfg outcomes` is the attempt loop of `__execute_node` (manager.py) with the defaults of
`NodeRetryPolicy`; `outcomes k` is what the k-th invocation of the body does.  The theorems hold for
every configuration (attempts `None`/0/≥1, any delay, any exception tuple, both `use_default`) and every
infinite sequence of per-attempt outcomes.  `C12_engine_*` show that the engine model takes exactly
these decisions for any node in any pipeline, whatever else is running.
-/
namespace MLPE.Retry

/-- attempt `m` is the deciding attempt -/
structure StopsAt (cfg : NodeCfg) (outcomes : Nat → BodyOutcome) (m : Nat) : Prop where
  pos    : 1 ≤ m
  le     : m ≤ cfg.attemptsEff
  before : ∀ j, 1 ≤ j → j < m → ∃ e, outcomes j = .raise e ∧ cfg.retryable e = true
  last   : m = cfg.attemptsEff ∨ ¬ ∃ e, outcomes m = .raise e ∧ cfg.retryable e = true

/-- **C12 (specification of the loop)**: the body is invoked exactly `m` times (`call 1 … call m`,
all with the same arguments — they are not part of the loop state), consecutive invocations are
separated by `sleep delay`, `get_default` is called iff the result is the default, and the result is
`finalOf` of the deciding attempt. -/
theorem C12_spec (cfg : NodeCfg) (outcomes : Nat → BodyOutcome) (m : Nat) (h : StopsAt cfg outcomes m) :
    run cfg outcomes =
      (patFrom cfg.delayEff 1 (m - 1) ++ tailOf (finalOf cfg (outcomes m)), some (finalOf cfg (outcomes m))) := by
  obtain ⟨hpos, hle, hbefore, hlast⟩ := h
  apply run_of_decide cfg outcomes _ m hpos hle
  · intro j h1 h2
    obtain ⟨e, he, hr⟩ := hbefore j h1 h2
    exact (decide_retry_iff cfg j _).mpr ⟨e, he, hr, by omega⟩
  · cases ho : outcomes m with
    | ret v => rfl
    | raise e =>
      rw [decide_raise, if_neg]
      exact fun ⟨hr, hk⟩ => hlast.elim hk fun hn => hn ⟨e, ho, hr⟩

/-- the deciding attempt always exists: the loop never runs away (for `attempts ≥ 0`; the code compares
`n_attempts == attempts`, so a negative setting — outside the annotated domain — would never stop). -/
theorem C12_stops (cfg : NodeCfg) (outcomes : Nat → BodyOutcome) : ∃ m, StopsAt cfg outcomes m := by
  -- the deciding attempt is the first that is the last allowed or does not raise a retryable exception
  obtain ⟨m, hle, ⟨h1, hl⟩, hmin⟩ := exists_least
    (fun m => 1 ≤ m ∧ (m = cfg.attemptsEff ∨ ¬ ∃ e, outcomes m = .raise e ∧ cfg.retryable e = true))
    cfg.attemptsEff ⟨attemptsEff_pos cfg, Or.inl rfl⟩
  exact ⟨m, h1, hle, fun j hj1 hj2 => Classical.not_not.mp fun hn => hmin j hj2 ⟨hj1, Or.inr hn⟩, hl⟩

/-- the loop always produces a result -/
theorem C12_total (cfg : NodeCfg) (outcomes : Nat → BodyOutcome) : (run cfg outcomes).2 ≠ none := by
  obtain ⟨m, h⟩ := C12_stops cfg outcomes
  rw [C12_spec cfg outcomes m h]; simp

/-- a body that succeeds at once is invoked once, with no sleep and no default -/
theorem C12_success_first (cfg : NodeCfg) (outcomes : Nat → BodyOutcome) (v : Val) (h : outcomes 1 = .ret v) :
    run cfg outcomes = ([.call 1], some (.value v)) := by
  have hs : StopsAt cfg outcomes 1 :=
    ⟨Nat.le_refl _, attemptsEff_pos cfg, fun j h1 h2 => by omega, Or.inr (by simp [h])⟩
  rw [C12_spec cfg outcomes 1 hs, h]; rfl

/-- an exception the `exceptions` setting does not list is not retried; it is defaulted iff it is an
`Exception` and the node opts in; a `BaseException` outside `Exception` is neither retried nor defaulted -/
theorem C12_non_retryable (cfg : NodeCfg) (outcomes : Nat → BodyOutcome) (e : Exc)
    (h : outcomes 1 = .raise e) (hn : cfg.retryable e = false) :
    run cfg outcomes =
      if e.isException && cfg.useDefault then ([.call 1, .dflt], some .default)
      else ([.call 1], some (.failed e)) := by
  have hs : StopsAt cfg outcomes 1 :=
    ⟨Nat.le_refl _, attemptsEff_pos cfg, fun j h1 h2 => by omega, Or.inr (by simp [h, hn])⟩
  rw [C12_spec cfg outcomes 1 hs, h, finalOf_raise, hn, Bool.false_or]
  split <;> rfl

/-- with the default `exceptions` setting, `BaseException`s outside `Exception` are not retryable -/
theorem C12_base_exception_not_retryable (cfg : NodeCfg) (e : Exc) (hc : cfg.exceptions = none)
    (hb : e.isException = false) : cfg.retryable e = false := by
  simp [NodeCfg.retryable, hc, hb]

/-- every retryable failure up to the limit: exactly `attempts` invocations, then default / last exception -/
theorem C12_exhausted (cfg : NodeCfg) (outcomes : Nat → BodyOutcome)
    (h : ∀ j, 1 ≤ j → j ≤ cfg.attemptsEff → ∃ e, outcomes j = .raise e ∧ cfg.retryable e = true) :
    ∃ e, outcomes cfg.attemptsEff = .raise e ∧
      run cfg outcomes =
        (patFrom cfg.delayEff 1 (cfg.attemptsEff - 1) ++ (if cfg.useDefault then [.dflt] else []),
         some (if cfg.useDefault then .default else .failed e)) := by
  have hA := attemptsEff_pos cfg
  obtain ⟨e, he, hr⟩ := h cfg.attemptsEff hA (Nat.le_refl _)
  refine ⟨e, he, ?_⟩
  have hs : StopsAt cfg outcomes cfg.attemptsEff :=
    ⟨hA, Nat.le_refl _, fun j h1 h2 => h j h1 (by omega), Or.inl rfl⟩
  rw [C12_spec cfg outcomes _ hs, he, finalOf_raise, hr, Bool.true_or, Bool.true_and]
  split <;> rfl

/-! ### the engine model applies this policy (any node, any pipeline, any interleaving)

`Eng.nodeAfterBody` is the only place where the engine model reacts to the outcome of a body; it is
a case split on `Retry.decide`. -/

open MLPE.Eng in
theorem C12_engine_value (c : Ctx) (s : St) (obs : List Obs) (d : DagRef) (n : Node) (force : Bool)
    (below : List Frame) (k : Nat) (kw : Kwargs) (inv : Nat) (o : BodyOutcome) (v : Val)
    (h : decide (c.P.cfg n) k o = .done (.value v)) :
    nodeAfterBody c s obs d n force below k kw inv o = nodeSuccess c s obs d n below v := by
  cases o with
  | ret w => cases h; rfl
  | raise e => rw [nodeAfterBody_raise, h]

open MLPE.Eng in
theorem C12_engine_default (c : Ctx) (s : St) (obs : List Obs) (d : DagRef) (n : Node) (force : Bool)
    (below : List Frame) (k : Nat) (kw : Kwargs) (inv : Nat) (o : BodyOutcome)
    (h : decide (c.P.cfg n) k o = .done .default) :
    nodeAfterBody c s obs d n force below k kw inv o = nodeDefault c s obs d n below kw := by
  cases o with
  | ret w => cases h
  | raise e => rw [nodeAfterBody_raise, h]

open MLPE.Eng in
/-- the default is computed by **one** call of `get_default`, on the keyword arguments of the attempts; when it returns,
its value is the node's value, reported as a success -/
theorem C12_engine_default_value (c : Ctx) (s : St) (obs : List Obs) (d : DagRef) (n : Node) (below : List Frame)
    (kw : Kwargs) (h : c.P.dfltRaise n = none) :
    nodeDefault c s obs d n below kw = nodeSuccess c s (obs ++ [.dflt n kw]) d n below (c.P.dflt n kw) :=
  nodeDefault_of_none c s obs d n below kw h

open MLPE.Eng in
/-- … and when `get_default` itself raises, that exception is the node's failure: `get_default` has been called once — it is
not called again, with other arguments or without any —, the failure is reported by `on_node_complete(error)` and handled
like a failure of the body after the last attempt -/
theorem C12_engine_default_raises (c : Ctx) (s : St) (obs : List Obs) (d : DagRef) (n : Node) (below : List Frame)
    (kw : Kwargs) (e : Exc) (h : c.P.dfltRaise n = some e) (he : e.isException = true) :
    nodeDefault c s obs d n below kw = nodeFail c s (obs ++ [.dflt n kw]) d n below e :=
  nodeDefault_of_some c s obs d n below kw h he

open MLPE.Eng in
theorem C12_engine_retry (c : Ctx) (s : St) (obs : List Obs) (d : DagRef) (n : Node) (force : Bool)
    (below : List Frame) (k : Nat) (kw : Kwargs) (inv : Nat) (e : Exc)
    (h : decide (c.P.cfg n) k (.raise e) = .retry) :
    nodeAfterBody c s obs d n force below k kw inv (.raise e) =
      cbCall c .ncomplete n s (obs ++ [.ncomplete n (some e)]) (fun j => .node d n force (.cbRetry j k kw inv) :: below)
        (fun s obs => nodeSleep c s obs d n force below k kw inv)
        (fun e' s obs => nodeCbRaiseInTry c s obs d n below e') := by
  rw [nodeAfterBody_raise, h]

/-- after the retry's `on_node_complete(error)` the task sleeps `delay` (a bare yield for `delay = 0`) and then
makes attempt `k + 1` with the same arguments -/
theorem C12_engine_sleep_then_next_attempt (c : Eng.Ctx) (s : Eng.St) (obs : List Eng.Obs) (d : Eng.DagRef) (n : Node)
    (force : Bool) (below : List Eng.Frame) (k : Nat) (kw : Kwargs) (inv : Nat) :
    Eng.nodeSleep c s obs d n force below k kw inv =
      if (c.P.cfg n).delayEff > 0 then
        Eng.block c s (obs ++ [.sleep (c.P.cfg n).delayEff]) (.node d n force (.sleep k kw inv) :: below)
          (.sleep n inv k (c.P.cfg n).delayEff)
      else Eng.yieldNow c s obs (.node d n force (.sleep k kw inv) :: below) := rfl

open MLPE.Eng in
theorem C12_engine_failed (c : Ctx) (s : St) (obs : List Obs) (d : DagRef) (n : Node) (force : Bool)
    (below : List Frame) (k : Nat) (kw : Kwargs) (inv : Nat) (o : BodyOutcome) (e : Exc)
    (h : decide (c.P.cfg n) k o = .done (.failed e)) :
    nodeAfterBody c s obs d n force below k kw inv o =
      if (c.P.cfg n).retryable e || e.isException then nodeFail c s obs d n below e
      else raiseOut c (nodeFinally c.P s d n true) obs below (.exc e) := by
  cases o with
  | ret w => cases h
  | raise e' => rw [nodeAfterBody_raise, h]

/-! Non-vacuity: a configuration with three attempts whose first two attempts raise a retryable
exception and whose third succeeds meets `StopsAt … 3`; the loop does what the theorem says. -/
example :
    let cfg : NodeCfg := { attempts := some 3, delay := some 2, exceptions := some ["E0"] }
    let outcomes : Nat → BodyOutcome := fun k => if k < 3 then .raise ⟨"E1", 7, 0, k⟩ else .ret (.str "v")
    run cfg outcomes = ([.call 1, .sleep 2, .call 2, .sleep 2, .call 3], some (.value (.str "v"))) := by
  decide

end MLPE.Retry

namespace MLPE.Eng
open MLPE

/-! ### Pipelines with switches and one-ofs: the attempts the engine actually makes, under every schedule -/

/-- **C12 (pipelines with one-ofs)**: every observed body call is within the attempt budget, and is made only after every
earlier attempt failed with a retryable exception; `get_default` is computed only when the policy ends in the default -/
theorem C12_oneof_attempts (P : Program) (val : Node → Option Val) (hone : OneP P) (hsol : SolutionOne P val)
    (s : St) (log : List Obs) (h : Exec P s log) :
    (∀ n inv k kw, Obs.body n inv k kw ∈ log → 1 ≤ k ∧ k ≤ (P.cfg n).attemptsEff ∧
      ∀ j, 1 ≤ j → j < k → Retry.decide (P.cfg n) j (P.body n kw 0 j) = .retry) ∧
    (∀ n kw, Obs.dflt n kw ∈ log → kw = kwFrom P val n ∧ finalOf P n (kwFrom P val n) = some .default) := by
  have hall := (safe_exec hone hsol h).2
  refine ⟨?_, ?_⟩
  · intro n inv k kw hm
    have a : Att P val n k kw inv := hall _ hm
    exact ⟨a.kpos, a.kle, a.pre⟩
  · intro n kw hm
    have a := hall _ hm
    exact ⟨a.1, a.2.2⟩

/-- the same for switch pipelines, which are one-of pipelines without a one-of -/
theorem C12_switch_attempts (P : Program) (val : Node → Option Val) (hsw : SwP P) (hsol : SolutionSw P val)
    (s : St) (log : List Obs) (h : Exec P s log) :
    (∀ n inv k kw, Obs.body n inv k kw ∈ log → 1 ≤ k ∧ k ≤ (P.cfg n).attemptsEff ∧
      ∀ j, 1 ≤ j → j < k → Retry.decide (P.cfg n) j (P.body n kw 0 j) = .retry) ∧
    (∀ n kw, Obs.dflt n kw ∈ log → kw = kwFrom P val n ∧ finalOf P n (kwFrom P val n) = some .default) :=
  C12_oneof_attempts P val hsw.toOneP (hsol.toOne hsw) s log h

/-! ### Over a whole run, in any pipeline (all programs, all schedules) — `Proofs/Budget.lean` -/

/-- **C12, every program, every schedule**: every invocation of a node body that any execution ever makes — in a plain
pipeline, inside a one-of candidate, in a restarted recurrent subgraph, after any interleaving — is attempt number `k` with
`1 ≤ k ≤ attempts`: a node is never invoked more often than configured -/
theorem C12_every_body_call_is_within_the_budget (P : Program) (s : St) (log : List Obs) (h : Exec P s log)
    (n : Node) (inv k : Nat) (kw : Kwargs) (hm : Obs.body n inv k kw ∈ log) :
    1 ≤ k ∧ k ≤ (P.cfg n).attemptsEff :=
  ((budget_exec h).2 _ hm).1

/-- … and `get_default` is called only for a node that opts in with `use_default = True` (also the forced default of a
recurrent destination whose iterations are exhausted) -/
theorem C12_default_only_for_nodes_that_opt_in (P : Program) (s : St) (log : List Obs) (h : Exec P s log)
    (n : Node) (kw : Kwargs) (hm : Obs.dflt n kw ∈ log) : (P.cfg n).useDefault = true :=
  ((budget_exec h).2 _ hm).1

/-- a task that sleeps before a retry has attempts left: the attempt that follows the delay is within the budget -/
theorem C12_sleeping_task_has_attempts_left (P : Program) (s : St) (log : List Obs) (h : Exec P s log)
    (t : Nat) (tk : Task) (d : DagRef) (n : Node) (force : Bool) (k : Nat) (kw : Kwargs) (inv : Nat) (below : List Frame)
    (htk : s.tasks[t]? = some tk) (hf : tk.frames = .node d n force (.sleep k kw inv) :: below) :
    k + 1 ≤ (P.cfg n).attemptsEff := by
  have := (stack_ok (budget_exec h).1 htk)
  rw [hf] at this
  have := this.head.2.1.2
  omega

/-- non-vacuity: in the demo run of the diamond node 1 is invoked (attempt 1, which fails) and then sleeps with an attempt left -/
example : (execLog demoDiamond init [] demoSchedule).map (fun r =>
      (r.2.any (fun o => match o with | .body 1 0 1 _ => true | _ => false),
       r.1.tasks.any (fun tk => match tk.frames with | .node _ 1 _ (.sleep 1 _ _) :: _ => true | _ => false))) =
    some (true, true) := by decide +kernel

end MLPE.Eng
