import MLPE.Proofs.EngBasic
import MLPE.Proofs.Budget
import MLPE.Proofs.OneDemo

/-!
# C10 — one-of yields the first successful candidate, lazily, and contains failures

General facts of the engine model, local to `_run_oneof` (every program, every state):
* candidates are tried strictly in declared order: trying `cand :: rest` opens exactly `cand`, starts exactly
  one sub-DAG task for it, and either waits for it, or takes its value (`C10_first_success_wins`), or — only
  if that sub-DAG has a recorded failure — goes on to `rest` (`C10_next_only_after_failure`);
  nothing of `rest` is opened or started before that (`C10_waits_for_current_candidate`);
* the edge from a candidate to its one-of head is not part of any reduced DAG (`C10_candidate_edge_not_in_reduced_dags`),
  so later candidates and the nodes only they need are not launched by anybody — unless they are ordinary dependencies
  of a needed node too;
* when every candidate failed: nested → the head gets `OneOfDoesNotHaveResultError` as its (contained)
  result and the enclosing scope is notified; top level → `run()` is woken and the one-of task fails with it
  (`C10_all_failed`).
**Pipelines with switches and one-ofs (any nesting, no recurrent subgraph), all schedules — safety**
(below, from the invariant of `Proofs/Safe.lean`): for every solution `val` of the dataflow
equations in which a one-of head has the value of the first candidate, in declared order, that has one
(`SolutionOne`), in every reachable state
* the value stored for a one-of head is that first candidate's value (`C10_head_value_is_first_success`), every stored
  value and every body argument is the semantic one (`C10_results_agree`, `C10_body_arguments`);
* a failure stored inside a one-of scope belongs to a node that has no value (`C10_contained_failure_has_no_value`), and
  no consumer body is ever invoked with such an object (`C10_body_arguments`: the arguments are the dataflow values);
* a returned value is the output's (`C10_returned_value`); an error outcome has a cause, which for
  `OneOfDoesNotHaveResultError` means that no candidate has a value (`C10_error_has_cause`);
* laziness: a started node is needed — for a candidate: every earlier candidate of its one-of has no value
  (`C10_only_needed_nodes_run`, `C10_unneeded_node_never_runs`).
The key lemma is `hasError_none`: *an exception stored for any node of a candidate's reduced DAG means the candidate has
no value* — true because every node of a reduced DAG reaches its destination along dependency edges
(`Graph.between_sound`) and neither case edges nor candidate→head edges are such edges (repo fix cd71782; before
it, the lemma was false and the real engine returned the second candidate's value).  Termination is not a theorem here.
-/
namespace MLPE.Eng
open MLPE

/-- while the current candidate is neither failed nor finished, `_run_oneof` blocks on it: no later candidate is
opened, no further task is created -/
theorem C10_waits_for_current_candidate (c : Ctx) (s : St) (obs : List Obs) (d : DagRef) (head cand : Node)
    (rest : List Node) (sub : DagRef) (below : List Frame) (h : oneofDone s cand sub = false) :
    oneofWake c s obs d head cand rest sub below =
      block c s obs (.oneofWait d head cand rest sub :: below) (.cond (.node cand)) := by
  simp [oneofWake, h]

/-- the first candidate whose sub-DAG finishes without a recorded failure wins: its stored value becomes the
value of the one-of node, the consumers and `run()` are notified, and no further candidate is tried -/
theorem C10_first_success_wins (c : Ctx) (s : St) (obs : List Obs) (d : DagRef) (head cand : Node)
    (rest : List Node) (sub : DagRef) (below : List Frame) (h : oneofDone s cand sub = true)
    (he : hasError s sub = false) :
    oneofWake c s obs d head cand rest sub below = oneofWin c s obs head cand below := by
  simp [oneofWake, h, he]

/-- what winning means: the one-of node gets the candidate's stored value -/
theorem C10_win_copies_candidate_value (c : Ctx) (s : St) (obs : List Obs) (head cand : Node) (below : List Frame) :
    oneofWin c s obs head cand below =
      retTo c (notify (notifyAll (notify (s.setRes head (s.getHid cand)) (.node head))
        ((c.P.g.desc1 head).map Key.node)) .run) obs below .none := rfl

/-- the next candidate is tried only after the current one has a recorded failure in its sub-DAG -/
theorem C10_next_only_after_failure (c : Ctx) (s : St) (obs : List Obs) (d : DagRef) (head cand : Node)
    (rest : List Node) (sub : DagRef) (below : List Frame) (he : hasError s sub = true) :
    oneofWake c s obs d head cand rest sub below = oneofTry c d head below s obs rest := by
  simp [oneofWake, oneofDone, he]

/-- trying a candidate opens exactly that candidate and starts exactly one task: its sub-DAG; nodes of that sub-DAG that
a restart of a recurrent subgraph has invalidated are hidden first, so that a result from before the restart is not taken
for the candidate's (`St.refresh`; without a restart it changes nothing, `refresh_of_nil`) -/
theorem C10_try_opens_one_candidate (c : Ctx) (d : DagRef) (head : Node) (below : List Frame) (s : St)
    (obs : List Obs) (cand : Node) (rest : List Node) (sub : DagRef)
    (hr : reducedRef c.P (openCand s true cand) c.P.g.input cand false true true = some sub)
    (hw : oneofDone (spawn ((openCand s true cand).refresh sub.nodes) [.dagInit sub] .dag).1 cand sub = false) :
    oneofTry c d head below s obs (cand :: rest) =
      block c (spawn ((openCand s true cand).refresh sub.nodes) [.dagInit sub] .dag).1
        (obs ++ [.spawn ((openCand s true cand).refresh sub.nodes).tasks.length .dag])
        (.oneofWait d head cand rest sub :: below) (.cond (.node cand)) := by
  simp [oneofTry, hr, hw]

/-- all candidates failed -/
theorem C10_all_failed (c : Ctx) (d : DagRef) (head : Node) (below : List Frame) (s : St) (obs : List Obs) :
    oneofTry c d head below s obs [] =
      if d.isNested then
        retTo c (notifyAll (notify (s.setRes head (.exc ⟨"OneOfNoResult", head, 0, 0⟩)) (.node head))
          ((c.P.g.desc1 head).map Key.node)) obs below .none
      else raiseOut c (notify s .run) obs below (.exc ⟨"OneOfNoResult", head, 0, 0⟩) := by
  simp [oneofTry]

/-- the edge from a candidate to its one-of head is not an edge of any reduced DAG: a candidate (and what only it needs)
is part of somebody else's sub-DAG only where it is an ordinary dependency too — and there it has to be computed,
whether its one-of tries it or not (fix: candidates are no longer hidden as nodes, which left such a consumer waiting
forever) -/
theorem C10_candidate_edge_not_in_reduced_dags (P : Program) (s : St) (e : Edge)
    (h : (P.g.attr e.v).oneofNodes.contains e.u = true) : (filteredView P s).okEdge e = false := by
  simp only [filteredView, h, Bool.not_true, Bool.and_false]

/-- every node is visible in the view the reduced DAGs are computed from -/
theorem C10_no_node_is_hidden (P : Program) (s : St) (u : Node) : (filteredView P s).okNode u = true := rfl

/-- the head of a one-of does not wait for its own candidates, even when they are nodes of the current DAG because somebody
else depends on them too (fix 07dff2b): every source its readiness looks at comes from a predecessor that is not one of
its candidates -/
theorem C10_head_readiness_ignores_candidates (P : Program) (s : St) (d : DagRef) (h : Node)
    (hh : P.g.isOneofHead h = true) (hsw : P.g.isSwitch h = false) :
    ∀ q ∈ predsFor P s d h, ∃ p, p ∈ P.g.preds h ∧ (P.g.attr h).oneofNodes.contains p = false ∧
      d.nodes.contains p = true ∧
      q = (if P.g.isSwitch p then (match s.sw p with | some (_, c) => c | none => p) else p) := by
  intro q hq
  unfold predsFor at hq
  simp only [hsw, hh, Bool.false_eq_true, if_false, Bool.true_or, if_true, List.mem_map,
    List.mem_filter, Bool.and_eq_true, Bool.not_eq_true', Bool.true_and] at hq
  obtain ⟨p, ⟨hp1, hp2, hp3⟩, heq⟩ := hq
  exact ⟨p, hp1, hp3, hp2, heq.symm⟩

/-- a one-of sub-DAG that gives up because a node of it has failed passes that error on to its destination when the
destination has no result (fix 3319e5b): a consumer outside the sub-DAG — of a switch whose case it is, of a recurrent
subgraph — learns of the failure -/
theorem C10_giving_up_passes_the_error_to_the_destination (c : Ctx) (d : DagRef) (below : List Frame) (s : St)
    (obs : List Obs) (n : Node) (rest : List Node) (dn : Node) (hr : ready c.P s d n = true) (ho : d.isOneof = true)
    (he : hasError s d = true) (hd : d.dest = some dn) (hx : s.exists dn = false) :
    dagLaunch c d below s obs (n :: rest) =
      retTo c (notify (notifyAll (notifyAll (s.setRes dn (.exc (subgraphError c.P s d))) ((c.P.g.desc1 dn).map Key.node))
        ((c.P.g.desc1 n).map Key.node)) d.destKey) obs below .none := by
  simp [dagLaunch, hr, ho, he, hd, hx]

/-- … and the error is one that a node of the sub-DAG really has as its result -/
theorem C10_the_passed_error_is_a_stored_one (P : Program) (s : St) (d : DagRef) (hres : ∀ n, s.resHid n = false)
    (he : hasError s d = true) : ∃ n ∈ d.nodes, s.res n = some (.exc (subgraphError P s d)) :=
  subgraphError_spec hres P he

/-- opening is per run: the initial state of every run has nothing opened (fix: no write to the shared DAG) -/
theorem C10_fresh_run_nothing_opened (u : Node) : init.opened u = false := rfl

/-! ### Pipelines with switches and one-ofs: safety in every reachable state, under every schedule -/

/-- **every stored value is the value the dataflow semantics assigns to its node** -/
theorem C10_results_agree (P : Program) (val : Node → Option Val) (hone : OneP P) (hsol : SolutionOne P val)
    (s : St) (h : Reach P s) (n : Node) (v : Val) (hr : s.res n = some v) (hne : v.isExc = false) :
    val n = some v ∧ v.isRecur = false :=
  ⟨(safe_reach hone hsol h).data.agree n v hr hne, (safe_reach hone hsol h).data.vals n v hr⟩

/-- **the value of a one-of is the value of its first successful candidate**: whatever is stored for the synthetic head
is the value of the first candidate, in declared order, that has a value in the dataflow semantics -/
theorem C10_head_value_is_first_success (P : Program) (val : Node → Option Val) (hone : OneP P)
    (hsol : SolutionOne P val) (s : St) (h : Reach P s) (hd : Node) (hh : P.g.isOneofHead hd = true) (v : Val)
    (hr : s.res hd = some v) (hne : v.isExc = false) :
    ∃ pre c post, cands P hd = pre ++ c :: post ∧ (∀ x ∈ pre, val x = none) ∧ val c = some v := by
  have hv := (safe_reach hone hsol h).data.agree hd v hr hne
  rw [hsol.head hd hh] at hv
  obtain ⟨pre, c, post, h1, h2, h3⟩ := List.findSome?_eq_some_iff.mp hv
  exact ⟨pre, c, post, h1, h3, h2⟩

/-- **failures are contained and never delivered as values**: an exception object stored as a node's result (inside a
one-of scope) belongs to a node that has no value, and it has a cause -/
theorem C10_contained_failure_has_no_value (P : Program) (val : Node → Option Val) (hone : OneP P)
    (hsol : SolutionOne P val) (s : St) (h : Reach P s) (n : Node) (e : Exc) (hr : s.res n = some (.exc e)) :
    val n = none ∧ ErrCause P val e :=
  ⟨((safe_reach hone hsol h).data.excOK n e hr).1, ((safe_reach hone hsol h).data.excOK n e hr).2.1⟩

/-- **every observed body call gets the dataflow values of its sources** — for a one-of parameter the value of the first
successful candidate; all sources have values (so no argument is a stored failure), first and only invocation -/
theorem C10_body_arguments (P : Program) (val : Node → Option Val) (hone : OneP P) (hsol : SolutionOne P val)
    (s : St) (log : List Obs) (h : Exec P s log) (n inv k : Nat) (kw : Kwargs) (hb : Obs.body n inv k kw ∈ log) :
    kw = kwFrom P val n ∧ (∀ p ∈ P.g.preds n, (val p).isSome = true) ∧ inv = 0 := by
  have a : Att P val n k kw inv := (safe_exec hone hsol h).2 _ hb
  exact ⟨a.kw_eq, List.all_eq_true.mp a.preds, a.inv0⟩

/-- **a returned value is the dataflow value of the output node** -/
theorem C10_returned_value (P : Program) (val : Node → Option Val) (hone : OneP P) (hsol : SolutionOne P val)
    (s : St) (h : Reach P s) (v : Val) (ho : s.outcome = some (.value v)) (hne : v.isExc = false) :
    val P.g.output = some v :=
  ((safe_reach hone hsol h).data.out (.value v) ho).1 hne

/-- **an error outcome has a cause**; for `OneOfDoesNotHaveResultError` raised by the engine for head `hd`: no candidate
of `hd` has a value -/
theorem C10_error_has_cause (P : Program) (val : Node → Option Val) (hone : OneP P) (hsol : SolutionOne P val)
    (s : St) (h : Reach P s) (e : Exc) (ho : s.outcome = some (.error e) ∨ s.outcome = some (.raised e)) :
    ErrCause P val e := by
  rcases ho with ho | ho
  · exact (safe_reach hone hsol h).data.out _ ho
  · exact (safe_reach hone hsol h).data.out _ ho

theorem C10_no_result_means_all_failed (P : Program) (val : Node → Option Val) (hsol : SolutionOne P val)
    (hd : Node) (hh : P.g.isOneofHead hd = true) (hv : val hd = none) : ∀ c ∈ cands P hd, val c = none := by
  rw [hsol.head hd hh] at hv
  exact List.findSome?_eq_none_iff.mp hv

/-- **laziness**: a node that has been started is needed — the output, a source of a needed node, the decision node or
selected case of a needed switch, or a candidate of a needed one-of **all of whose earlier candidates have no value**
(launch orders being topological orders of their DAGs) -/
theorem C10_only_needed_nodes_run (P : Program) (val : Node → Option Val) (hone : OneP P) (hsol : SolutionOne P val)
    (s : St) (h : Reach P s) (hord : s.badOrd = false) (n : Node) (hp : s.proc n = true) : Demanded P val n := by
  rcases (safe_reach hone hsol h).data.lazy with hb | hl
  · rw [hord] at hb; cases hb
  · exact hl n hp

theorem C10_unneeded_node_never_runs (P : Program) (val : Node → Option Val) (hone : OneP P) (hsol : SolutionOne P val)
    (s : St) (h : Reach P s) (hord : s.badOrd = false) (n : Node) (hn : ¬ Demanded P val n) : s.proc n = false := by
  cases hp : s.proc n with
  | false => rfl
  | true => exact absurd (C10_only_needed_nodes_run P val hone hsol s h hord n hp) hn

/-! Non-vacuity: `demoOne` (first candidate raises, second succeeds) satisfies `OneP` by evaluation of its Boolean form
and has the solution `demoOneVal`; a complete run is exhibited — candidate `1` fails inside its one-of scope, candidate
`2` is tried next, the consumer gets its value — and the theorems are applied to its final state. -/

def runChoicesO (P : Program) : St → List Choice → Option St
  | s, [] => some s
  | s, c :: cs => match step P s c with
    | some (s', _) => runChoicesO P s' cs
    | none => none

theorem reach_of_runO {P : Program} : ∀ (cs : List Choice) (s s' : St), Reach P s → runChoicesO P s cs = some s' → Reach P s' :=
  reach_of_steps (fun _ => rfl) (fun _ _ _ => rfl)

def demoOneRun : List Choice :=
  [.run 0 [] 0, .run 1 [0, 3, 4] 0, .run 2 [] 0, .gate 0 0 1, .run 2 [] 0, .run 1 [] 0,
   .run 3 [] 0, .run 4 [1] 0, .run 5 [] 0, .gate 1 0 1, .run 5 [] 0, .run 3 [] 0,
   .run 6 [2] 0, .run 7 [] 0, .gate 2 0 1, .run 7 [] 0, .run 3 [] 0, .run 1 [] 0, .run 8 [] 0, .gate 4 0 1, .run 8 [] 0,
   .run 1 [] 0, .run 0 [] 0]

example : ∃ s, runChoicesO demoOne init demoOneRun = some s ∧ Reach demoOne s ∧
    (∃ e, s.res 1 = some (.exc e) ∧ demoOneVal 1 = none) ∧
    (∃ v, s.res 3 = some v ∧ demoOneVal 3 = some v ∧ demoOneVal 2 = some v) ∧
    ∃ v, s.outcome = some (.value v) ∧ demoOneVal demoOne.g.output = some v := by
  obtain ⟨s, hs, hr, h1, h3, ho⟩ := fact_of_run (fun s => reach_of_runO (P := demoOne) demoOneRun init s .init)
    (fun s => s.res 1 = some (.exc ⟨"E0", 1, 0, 1⟩) ∧ s.res 3 = some (.int 2) ∧ s.outcome = some (.value (.int 4)))
    (by decide +kernel)
  have a1 := C10_contained_failure_has_no_value demoOne demoOneVal demoOne_oneP demoOneVal_solution s hr 1 _ h1
  have a3 := C10_results_agree demoOne demoOneVal demoOne_oneP demoOneVal_solution s hr 3 _ h3 rfl
  -- the head's value is the second candidate's: the first has none
  have h32 : demoOneVal 3 = demoOneVal 2 := by decide
  exact ⟨s, hs, hr, ⟨_, h1, a1.1⟩, ⟨_, h3, a3.1, h32 ▸ a3.1⟩, _, ho,
    C10_returned_value demoOne demoOneVal demoOne_oneP demoOneVal_solution s hr _ ho rfl⟩

/-- **contained failures are never delivered to a consumer as a value** (all programs, all schedules): no body call of any
execution — whatever mix of one-ofs, switches and recurrent subgraphs, whoever stored the exception object — has an exception
object as the value of a declared parameter (`Proofs/KwArgs.lean`: `_get_node_kwargs` fails the consumer instead) -/
theorem C10_failure_object_is_never_an_argument (P : Program) (s : St) (log : List Obs) (h : Exec P s log)
    (n : Node) (inv k : Nat) (kw : Kwargs) (hm : Obs.body n inv k kw ∈ log) (hn : (n == P.g.input) = false)
    (a : String) (v : Val) (hv : (a, v) ∈ kw) (ha : a ≠ "additional_data") : v.isExc = false :=
  (((budget_exec h).2 _ hm).2.2 hn).noExc a v hv ha

end MLPE.Eng
