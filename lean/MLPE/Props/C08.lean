import MLPE.Proofs.EngBasic

/-!
# C08 — overlapping runs of one chart do not interfere

Overlapping runs are modelled as the product of independent instances of the engine model: a choice belongs to one
run and transforms only that run's state.  The projection of any interleaved execution onto one run is therefore an
execution of that run alone (`C08_projection_is_solo_run`), whatever the other runs do — fail, get cancelled,
finish.  That the CODE has no channel between runs (graph attributes, node classes, module-level state) is what
the check establishes: each run's events of an overlapping execution are replayed on its own fresh model
instance (harness/multirun.py).  Pool registries are process-wide singletons: modelled as ready / not ready (C17).
-/
namespace MLPE.Eng
open MLPE

/-- a system of overlapping runs of the same chart (each with its own input): one state per run -/
abbrev Multi := List St

def mstep (Ps : List Program) (m : Multi) (i : Nat) (c : Choice) : Option (Multi × List Obs) :=
  match Ps[i]?, m[i]? with
  | some P, some s => (step P s c).map fun r => (m.set i r.1, r.2)
  | _, _ => none

inductive MReach (Ps : List Program) : Multi → Prop
  | init : MReach Ps (Ps.map fun _ => init)
  | step {m m' : Multi} {i : Nat} {c : Choice} {obs : List Obs} :
      MReach Ps m → mstep Ps m i c = some (m', obs) → MReach Ps m'

theorem mstep_eq_some {Ps : List Program} {m m' : Multi} {i : Nat} {c : Choice} {obs : List Obs}
    (h : mstep Ps m i c = some (m', obs)) :
    ∃ P s s', Ps[i]? = some P ∧ m[i]? = some s ∧ step P s c = some (s', obs) ∧ m' = m.set i s' := by
  unfold mstep at h
  split at h
  · next P s hP hs =>
    obtain ⟨⟨s', _⟩, hst, ⟨⟩⟩ := Option.map_eq_some_iff.mp h
    exact ⟨P, s, s', hP, hs, hst, rfl⟩
  · cases h

/-- a step of run `i` leaves every other run's state untouched -/
theorem C08_other_runs_untouched (Ps : List Program) (m m' : Multi) (i j : Nat) (c : Choice) (obs : List Obs)
    (h : mstep Ps m i c = some (m', obs)) (hij : j ≠ i) : m'[j]? = m[j]? := by
  obtain ⟨_, _, _, _, _, _, rfl⟩ := mstep_eq_some h
  exact List.getElem?_set_ne hij.symm

/-- **non-interference**: in every reachable state of the overlapping system, the state of run `i` is a state that
run `i` reaches alone -/
theorem C08_projection_is_solo_run (Ps : List Program) (m : Multi) (h : MReach Ps m) (i : Nat) (P : Program) (s : St)
    (hP : Ps[i]? = some P) (hs : m[i]? = some s) : Reach P s := by
  induction h generalizing s with
  | init =>
    rw [List.getElem?_map, hP] at hs
    cases hs
    exact .init
  | @step m0 m1 i' c obs _ hstep ih =>
    by_cases hi : i = i'
    · subst hi
      obtain ⟨P', s0, s', hP', hs0, hst, rfl⟩ := mstep_eq_some hstep
      cases hP.symm.trans hP'
      rw [List.getElem?_set_self (List.getElem?_eq_some_iff.mp hs0).1] at hs
      cases hs
      exact .step (ih s0 hs0) hst
    · rw [C08_other_runs_untouched Ps m0 m1 i' i c obs hstep hi] at hs
      exact ih s hs

/-- consequently the outcome of run `i` in the overlapping system is an outcome of run `i` alone -/
theorem C08_outcome_is_solo_outcome (Ps : List Program) (m : Multi) (h : MReach Ps m) (i : Nat) (P : Program) (s : St)
    (hP : Ps[i]? = some P) (hs : m[i]? = some s) (o : Outcome) (ho : s.outcome = some o) :
    ∃ s', Reach P s' ∧ s'.outcome = some o :=
  ⟨s, C08_projection_is_solo_run Ps m h i P s hP hs, ho⟩

end MLPE.Eng
