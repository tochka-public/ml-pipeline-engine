import MLPE.Proofs.CoreInv
import MLPE.Proofs.RecScope

/-!
# C11 — recurrent subgraph: bounded re-execution; consumers see only the final result

General facts of the engine model, local to `_run_recurrent_subgraph` / `_run_node` (every program, every state):
* at most `max_iterations` re-runs: iteration `k` runs only if `k < max_iterations`; each re-run hands the data
  of the `Recurrent` result to the start node as `additional_data` and re-executes the nodes of the
  start→dest subgraph (`C11_iteration_runs_subgraph`, `C11_bound`);
* when iterations are exhausted: `get_default()` iff the destination opts in, otherwise
  `RecurrentSubgraphDoesNotHaveResultError` (contained inside a one-of scope) (`C11_exhausted`);
* a `Recurrent` result never unlocks the consumers: only the node's own condition and event are signalled
  (`C11_recurrent_result_does_not_unlock_consumers`), and `ready` refuses a `Recurrent` source (C03);
* nodes are re-executed only through `hide_last_execution` (C04);
* a restart forgets the decisions of the switches between start and destination, so their consumers wait for the new
  decision (`C11_restart_forgets_decisions`, `C11_consumer_waits_for_new_decision`), and the DAG of an iteration is the
  part of that scope the destination needs through ordinary edges — cases and one-of candidates are run by their
  switch / one-of, as in the first iteration (`C11_iteration_dag_is_lazy`; demo `demoSwRec`);
* a restart only *marks* the nodes between start and destination; a DAG that is about to run hides exactly its marked
  nodes, everything else keeps its result — a reader outside the subgraph is never left waiting for a node nobody
  needs again (`C11_invalidated_nodes_keep_results`, `C11_starting_dag_hides_its_invalidated_nodes`,
  `C11_starting_dag_leaves_the_rest`; demo `demoReader`);
* one `_run_recurrent_subgraph` per subgraph: a `Recurrent` result starts the loop only if it is not running already
  (`C11_no_second_loop_while_active`, `C11_first_recurrent_result_starts_the_loop`);
* a switch waits for its decision only, in the DAG of an iteration as in every other DAG
  (`C11_switch_readiness_ignores_cases`, `C11_switch_readiness_is_the_same_in_every_dag`).
**All programs, all schedules** (`Proofs/RecScope.lean`): in every reachable state a node whose execution was ever
invalidated belongs to the subgraph `start → dest` of a `RecurrentSubGraph` mark
(`C11_only_subgraph_nodes_are_invalidated`), so a node outside every recurrent subgraph is executed at most once in a
run, whoever requests it (`C11_outside_nodes_run_at_most_once`) — "nodes outside the subgraph are not re-executed".
-/
namespace MLPE.Eng
open MLPE

/-- iteration `k < max_iterations`: store the data for the start node, invalidate everything between start and
destination, then run the DAG of the iteration inline — which hides (results, processed marks, switch decisions) those
of its nodes that are invalidated; the others are hidden when a switch or a one-of needs them again -/
theorem C11_iteration_runs_subgraph (c : Ctx) (s : St) (obs : List Obs) (d : DagRef) (n start : Node) (g : DagRef)
    (k : Nat) (data : Val) (below : List Frame) (hk : k < ((c.P.g.attr n).maxIter).getD 0) :
    recIter c s obs d n start g k (.recur data) below =
      dagInit c ((s.setAdditional start data).invalidate (recScopeNodes c.P start n d.isOneof)) obs g
        (.recIterRet d n start g k :: below) := by
  simp [recIter, hk]

/-- no iteration beyond the bound: with `k ≥ max_iterations` the subgraph is not run again -/
theorem C11_exhausted (c : Ctx) (s : St) (obs : List Obs) (d : DagRef) (n start : Node) (g : DagRef)
    (k : Nat) (r : Val) (below : List Frame) (hk : ¬ k < ((c.P.g.attr n).maxIter).getD 0) :
    recIter c s obs d n start g k r below =
      if r.isRecur && (c.P.cfg n).useDefault then
        nodeStart c (s.hide [n]) obs d n true (.recDfltRet d n start :: below)
      else if d.isOneof then
        recFinish c (notifyAll (notify (s.setRes n (.exc ⟨"RecNoResult", n, 0, 0⟩)) (.node n))
          ((c.P.g.desc1 n).map Key.node)) obs n start below
      else raiseOut c (notify s .run) obs below (.exc ⟨"RecNoResult", n, 0, 0⟩) := by
  simp [recIter, hk]

/-- the iteration counter only moves forward by one per returned `Recurrent` result, and a non-`Recurrent`
result (or an error in the subgraph) ends the loop: at most `max_iterations` re-runs in total -/
theorem C11_bound (c : Ctx) (s : St) (d : DagRef) (n start : Node) (g : DagRef) (k : Nat) (v : Val)
    (below : List Frame) (tk : Task) (h : s.tasks[c.t]? = some tk) (hm : tk.mustCancel = false)
    (hf : tk.frames = .recIterRet d n start g k :: below) (hst : tk.st = .runnable (.ret v)) :
    stepTask c s =
      if hasError s g then
        some (retTo c (if v.isRecur then
            notifyAll (notify (s.setRes n (.exc (subgraphError c.P s g))) (.node n)) ((c.P.g.desc1 n).map Key.node)
          else s) [] below .none)
      else if !v.isRecur then some (recFinish c s [] n start below)
      else some (recIter c s [] d n start g (k + 1) v below) := by
  simp [stepTask, h, hm, hf, hst]

/-- a `Recurrent` result does not wake the consumers: the `finally` of `_run_node` signals only the node's own
event and condition -/
theorem C11_recurrent_result_does_not_unlock_consumers (P : Program) (s : St) (d : DagRef) (n : Node) :
    nodeFinally P s d n false = notify (setEvent s n) (.node n) := by
  simp [nodeFinally]

theorem C11_recurrent_result_uses_no_unlock (c : Ctx) (s : St) (obs : List Obs) (d : DagRef) (n : Node)
    (below : List Frame) (data : Val) (e : Bool) :
    nodePost c s obs d n below (.recur data) e =
      retTo c (nodeFinally c.P (storeIf (recSpawn c.P s d n (.recur data)) e n (.recur data)) d n false)
        (if recSpawns c.P s n (.recur data) then obs ++ [.spawn s.tasks.length (.recur n)] else obs) below .none := by
  simp [nodePost, Val.isRecur]

/-- **one `_run_recurrent_subgraph` per subgraph** (repo fix): a `Recurrent` result starts the task of the subgraph only if
the subgraph is not being restarted already — the running loop takes the new result itself.  (A task created anyway could
start after that loop had finished, and restarted the subgraph all over again: more than `max_iterations` re-runs, and the
default / final result replaced.) -/
theorem C11_no_second_loop_while_active (P : Program) (s : St) (d : DagRef) (n start : Node) (v : Val)
    (hst : (P.g.attr n).startNode = some start) (hact : (start, n) ∈ s.active) :
    recSpawn P s d n v = s ∧ recSpawns P s n v = false := by
  have : recSpawns P s n v = false := by
    simp only [recSpawns, hst, Bool.and_eq_false_imp]
    intro _
    simpa using hact
  exact ⟨by simp [recSpawn, this], this⟩

theorem C11_first_recurrent_result_starts_the_loop (P : Program) (s : St) (d : DagRef) (n start : Node) (data : Val)
    (hst : (P.g.attr n).startNode = some start) (hact : (start, n) ∉ s.active) :
    recSpawn P s d n (.recur data) = (spawn s [.recStart d n (.recur data)] (.recur n)).1 := by
  simp [recSpawn, recSpawns, hst, Val.isRecur, hact]

/-- re-execution needs a hide (C04), and only a DAG that is about to run (of those of its nodes that a restart has
invalidated) and the default fallback hide -/
theorem C11_reexecution_needs_hide (P : Program) (s : St) (h : Reach P s) (n : Node) (h0 : s.hideCount n = 0) :
    s.invCount n ≤ 1 := by
  have : s.invCount n ≤ s.hideCount n + 1 := (coreInv_reach h n).1
  rwa [h0] at this

/-! ### All programs, all schedules: re-execution happens only inside recurrent subgraphs -/

/-- **C11 (all programs, all schedules): a node is re-executed only inside a recurrent subgraph** — in every reachable
state a node whose last execution has ever been invalidated is a node of the subgraph `start → dest` of some
`RecurrentSubGraph` mark (or such a destination) -/
theorem C11_only_subgraph_nodes_are_invalidated (P : Program) (s : St) (h : Reach P s) (n : Node)
    (hn : 0 < s.hideCount n) : s.badOrd = true ∨ InRecScope P n :=
  hidden_in_rec_scope h n hn

/-- **nodes outside the subgraph are not re-executed**: a node that belongs to no recurrent subgraph is executed at most
once in a run, whoever requests it and however the requests interleave -/
theorem C11_outside_nodes_run_at_most_once (P : Program) (s : St) (h : Reach P s) (n : Node)
    (hout : ¬ InRecScope P n) (hord : s.badOrd = false) : s.invCount n ≤ 1 :=
  C11_reexecution_needs_hide P s h n <| Nat.eq_zero_of_not_pos fun hpos =>
    (C11_only_subgraph_nodes_are_invalidated P s h n hpos).elim (fun hb => by rw [hord] at hb; cases hb) hout

/-- a recurrent pipeline `0 → 1 → 2 → 3` whose destination `2` asks once for another iteration of `1 → 2` -/
def demoRec : Program :=
  { g := { nodes := [0, 1, 2, 3],
           edges := [{ u := 0, v := 1, kwarg := some "a" }, { u := 1, v := 2, kwarg := some "a" },
                     { u := 2, v := 3, kwarg := some "a" }],
           attr := fun n => if n = 2 then { startNode := some 1, maxIter := some 2 } else {}, input := 0, output := 3 },
    cfg := fun _ => {},
    body := fun n _ inv _ => if n = 2 ∧ inv = 0 then .ret (.recur (.str "d")) else .ret (.int n),
    dflt := fun _ _ => .none,
    inputKw := [] }

def demoRecRun : List Choice :=
  [.run 0 [] 0, .run 1 [0, 1, 2, 3] 0, .run 2 [] 0, .gate 0 0 1, .run 2 [] 0, .run 0 [] 0, .run 1 [] 0,
   .run 3 [] 0, .gate 1 0 1, .run 3 [] 0, .run 0 [] 0, .run 1 [] 0, .run 4 [] 0, .gate 2 0 1,
   .run 4 [] 0, .run 5 [1, 2] 0, .run 6 [] 0, .gate 1 1 1, .run 6 [] 0, .run 0 [] 0, .run 5 [] 0,
   .run 7 [] 0, .gate 2 1 1, .run 7 [] 0, .run 0 [] 0, .run 1 [] 0, .run 5 [] 0, .run 5 [1, 2] 0,
   .run 8 [] 0, .gate 3 0 1, .run 8 [] 0, .run 0 [] 0]

def runChoicesC11 (P : Program) : St → List Choice → Option St
  | s, [] => some s
  | s, c :: cs => match step P s c with
    | some (s', _) => runChoicesC11 P s' cs
    | none => none

theorem reach_of_runC11 {P : Program} : ∀ (cs : List Choice) (s s' : St), Reach P s → runChoicesC11 P s cs = some s' → Reach P s' :=
  reach_of_steps (fun _ => rfl) (fun _ _ _ => rfl)

theorem runChoicesC11_append {P : Program} : ∀ (as bs : List Choice) (s : St),
    runChoicesC11 P s (as ++ bs) = (runChoicesC11 P s as).bind fun s1 => runChoicesC11 P s1 bs
  | [], _, _ => rfl
  | a :: as, bs, s => by
    simp only [List.cons_append, runChoicesC11]
    split
    · exact runChoicesC11_append as bs _
    · rfl

/-- a computed run with a checkpoint after `k` steps: one evaluation shows a fact of the state at the checkpoint and a
fact of the final state, and the kernel computes the first `k` steps once -/
theorem facts_of_run_at {P : Program} (k : Nat) (cs : List Choice) (p q : St → Prop) [DecidablePred p] [DecidablePred q]
    (h : ((runChoicesC11 P init (cs.take k)).bind fun s1 =>
      (runChoicesC11 P s1 (cs.drop k)).map fun s2 => decide (p s1 ∧ q s2)) = some true) :
    (∃ s, runChoicesC11 P init (cs.take k) = some s ∧ Reach P s ∧ p s) ∧
    (∃ s, runChoicesC11 P init cs = some s ∧ Reach P s ∧ q s) := by
  obtain ⟨s1, h1, h⟩ := Option.bind_eq_some_iff.mp h
  obtain ⟨s2, h2, h⟩ := Option.map_eq_some_iff.mp h
  have hpq := of_decide_eq_true h
  have h12 : runChoicesC11 P init cs = some s2 := by
    rw [← List.take_append_drop k cs, runChoicesC11_append, h1]; exact h2
  exact ⟨⟨s1, h1, reach_of_runC11 _ init s1 .init h1, hpq.1⟩, ⟨s2, h12, reach_of_runC11 _ init s2 .init h12, hpq.2⟩⟩

/-- non-vacuity: a complete run of the demo — the subgraph nodes `1`, `2` are invalidated once and executed twice, the
outside nodes `0`, `3` once; the theorems apply to its final state -/
example : ∃ s, runChoicesC11 demoRec init demoRecRun = some s ∧ Reach demoRec s ∧ s.badOrd = false ∧
    s.hideCount 1 = 1 ∧ s.invCount 1 = 2 ∧ s.invCount 2 = 2 ∧ InRecScope demoRec 1 ∧
    ¬ InRecScope demoRec 0 ∧ s.invCount 0 ≤ 1 ∧ ¬ InRecScope demoRec 3 ∧ s.invCount 3 ≤ 1 ∧
    ∃ v, s.outcome = some (.value v) := by
  obtain ⟨s, hs, hr, hord, h1, h2, h3, hval⟩ := fact_of_run (fun s => reach_of_runC11 (P := demoRec) demoRecRun init s .init)
    (fun s => s.badOrd = false ∧ s.hideCount 1 = 1 ∧ s.invCount 1 = 2 ∧ s.invCount 2 = 2 ∧
      ∃ v, s.outcome = some (.value v)) (by decide +kernel)
  -- the only mark is (start 1, dest 2); its subgraph is [1, 2]
  have hg2 : ∀ io, (recGraph demoRec 1 2 io).map (·.nodes) = some [1, 2] := by decide +kernel
  have hout : ∀ n, n = 0 ∨ n = 3 → ¬ InRecScope demoRec n := by
    intro n hn hsc
    rcases hsc with ⟨dst, start, io, g, hst, hg, hmem⟩ | hst
    · have hd : dst = 2 := by
        simp only [demoRec] at hst
        split at hst
        · assumption
        · cases hst
      subst hd
      have hs1 : start = 1 := by simp [demoRec] at hst; exact hst.symm
      subst hs1
      have : g.nodes = [1, 2] := by simpa [hg] using hg2 io
      rw [this] at hmem
      rcases hn with rfl | rfl <;> simp at hmem
    · rcases hn with rfl | rfl <;> simp [demoRec] at hst
  have hin : InRecScope demoRec 1 := by
    obtain ⟨g, hg, h1⟩ := Option.map_eq_some_iff.mp (hg2 false)
    exact Or.inl ⟨2, 1, false, g, by simp [demoRec], hg, by simp [h1]⟩
  exact ⟨s, hs, hr, hord, h1, h2, h3, hin, hout 0 (Or.inl rfl),
    C11_outside_nodes_run_at_most_once demoRec s hr 0 (hout 0 (Or.inl rfl)) hord, hout 3 (Or.inr rfl),
    C11_outside_nodes_run_at_most_once demoRec s hr 3 (hout 3 (Or.inr rfl)) hord, hval⟩

/-! ### switches and one-ofs inside the restarted scope (repo fix 12d4978) -/

/-- **a restart forgets the decisions of the switches it invalidates** (repo fix 12d4978) — and only those -/
theorem C11_restart_forgets_decisions (s : St) (ns : List Node) (n : Node) :
    (s.hide ns).sw n = if ns.contains n then none else s.sw n := rfl

/-- a hidden node has no visible result: whoever waits for it is not ready -/
theorem C11_hidden_source_blocks (P : Program) (s : St) (ns : List Node) (d : DagRef) (c p : Node)
    (hp : p ∈ predsFor P (s.hide ns) d c) (hn : p ∈ ns) : ready P (s.hide ns) d c = false := by
  have hx : (s.hide ns).exists p = false := by simp [St.exists, St.hide, hn]
  rw [← Bool.not_eq_true, ready, List.all_eq_true]
  exact fun h => by simpa [hx] using h p hp

/-- **the consumer of a switch inside the restarted scope waits for the new decision**: after the restart the switch
stands for itself among the consumer's sources again (not for the case selected in the previous iteration), and it has no
visible result, so the consumer is not ready — until `_run_switch` records a decision and wakes it -/
theorem C11_consumer_waits_for_new_decision (P : Program) (s : St) (ns : List Node) (d : DagRef) (c S : Node)
    (hS : P.g.isSwitch S = true) (hin : S ∈ ns) (hpre : S ∈ P.g.preds c)
    (hc1 : P.g.isSwitch c = false) (hc2 : P.g.isOneofHead c = false) (hd : d.isRec = true → S ∈ d.nodes) :
    ready P (s.hide ns) d c = false := by
  apply C11_hidden_source_blocks P s ns d c S _ hin
  unfold predsFor
  simp only [hc1, hc2, Bool.false_and, Bool.false_or, Bool.false_eq_true, if_false, Bool.not_false,
    Bool.and_true]
  have hsw : (s.hide ns).sw S = none := by simp [St.hide, hin]
  apply List.mem_map.mpr
  refine ⟨S, ?_, ?_⟩
  · split
    · next hrec =>
      simp only [List.mem_filter, List.contains_iff_mem]
      exact ⟨hpre, hd hrec⟩
    · exact hpre
  · simp only [hS, if_true, hsw]

/-- **the DAG of an iteration is lazy** (repo fix 12d4978): it consists of nodes of the restarted scope that the
destination needs through ordinary edges — a case node or a one-of candidate is in it only if somebody reads it as an
ordinary dependency as well; the flags and the destination are those of the scope -/
theorem C11_iteration_dag_is_lazy (P : Program) (s : St) (scope g : DagRef) (dst : Node)
    (h : recLaunch P s scope dst = some g) :
    (∃ r, reducedRef P s P.g.input dst false false false = some r ∧
        ∀ m, m ∈ g.nodes ↔ (m ∈ scope.nodes ∧ m ∈ r.nodes)) ∧
      g.isRec = scope.isRec ∧ g.isOneof = scope.isOneof ∧ g.dest = scope.dest := by
  unfold recLaunch at h
  split at h
  · cases h
  · next r hr =>
    cases h
    refine ⟨⟨r, hr, ?_⟩, rfl, rfl, rfl⟩
    intro m
    simp [List.mem_filter]

/-- a switch inside a recurrent subgraph: `1 → 2 (decision) → 8 (switch, cases 3 | 4) → 5 → 6`, the destination `6` asks
once for another iteration of `1 → 6`; the decision is `l0` in the first iteration and `l1` in the second; the cases `3`,
`4` lie outside the subgraph -/
def demoSwRec : Program :=
  { g := { nodes := [0, 1, 2, 3, 4, 5, 6, 7, 8],
           edges := [{ u := 0, v := 1, kwarg := some "a" }, { u := 1, v := 2, kwarg := some "a" }, { u := 0, v := 3 },
                     { u := 0, v := 4 }, { u := 8, v := 5, kwarg := some "a" }, { u := 5, v := 6, kwarg := some "a" },
                     { u := 6, v := 7, kwarg := some "a" }, { u := 2, v := 8, isSwitch := true },
                     { u := 3, v := 8, case := some "l0" }, { u := 4, v := 8, case := some "l1" }],
           attr := fun n => if n = 8 then { isSwitch := true, inMap := false }
                            else if n = 6 then { startNode := some 1, maxIter := some 2 } else {},
           input := 0, output := 7, order := [6, 7, 5, 8, 2, 3, 4, 0, 1] },
    cfg := fun _ => {},
    body := fun n _ inv _ =>
      if n = 2 then (if inv = 0 then .ret (.str "l0") else .ret (.str "l1"))
      else if n = 6 ∧ inv = 0 then .ret (.recur (.str "d")) else .ret (.int n),
    dflt := fun _ _ => .none,
    inputKw := [] }

/-- the schedule the real engine follows on this pipeline (FIFO), as recorded by the harness -/
def demoSwRecRun : List Choice :=
  [.run 0 [] 0, .run 1 [0, 1, 2, 8, 5, 6, 7] 0, .run 2 [] 0, .gate 0 0 1, .run 2 [] 0, .run 1 [] 0, .run 0 [] 0, .run 3 [] 0, .gate 1 0 1, .run 3 [] 0, .run 1 [] 0, .run 0 [] 0, .run 4 [] 0, .gate 2 0 1, .run 4 [] 0, .run 1 [] 0, .run 0 [] 0, .run 5 [3] 0, .run 6 [] 0, .gate 3 0 1, .run 6 [] 0, .run 1 [] 0, .run 0 [] 0, .run 5 [] 0, .run 7 [] 0, .gate 5 0 1, .run 7 [] 0, .run 1 [] 0, .run 0 [] 0, .run 8 [] 0, .gate 6 0 1, .run 8 [] 0, .run 9 [1, 2, 8, 5, 6] 0, .run 10 [] 0, .gate 1 1 1, .run 10 [] 0, .run 9 [] 0, .run 0 [] 0, .run 11 [] 0, .gate 2 1 1, .run 11 [] 0, .run 9 [] 0, .run 0 [] 0, .run 12 [4] 0, .run 13 [] 0, .gate 4 0 1, .run 13 [] 0, .run 9 [] 0, .run 0 [] 0, .run 12 [] 0, .run 14 [] 0, .gate 5 1 1, .run 14 [] 0, .run 9 [] 0, .run 0 [] 0, .run 15 [] 0, .gate 6 1 1, .run 15 [] 0, .run 1 [] 0, .run 0 [] 0, .run 9 [] 0, .run 16 [] 0, .gate 7 0 1, .run 16 [] 0, .run 0 [] 0, .run 1 [] 0]

/-- non-vacuity of the repaired behaviour, on the schedule of the real engine: **after the restart** (33 steps) the
decision of the switch is forgotten, its consumer `5` is not ready in the DAG of the iteration, the cases — outside the
scope — keep their results; **at the end** the second decision `l1 ↦ 4` is recorded, each case has been executed exactly
once (the DAG of the iteration did not run them), the consumer twice, and the run returned a value -/
example : (∃ s, runChoicesC11 demoSwRec init (demoSwRecRun.take 33) = some s ∧ Reach demoSwRec s ∧ s.sw 8 = none ∧
      s.hideCount 8 = 1 ∧ s.hideCount 3 = 0 ∧
      ready demoSwRec s { source := 1, dest := some 6, nodes := [1, 2, 8, 5, 6], isRec := true } 5 = false) ∧
    (∃ s, runChoicesC11 demoSwRec init demoSwRecRun = some s ∧ Reach demoSwRec s ∧ s.badOrd = false ∧
      s.sw 8 = some ("l1", 4) ∧ s.invCount 3 = 1 ∧ s.invCount 4 = 1 ∧ s.invCount 5 = 2 ∧
      ∃ v, s.outcome = some (.value v)) :=
  facts_of_run_at 33 demoSwRecRun _ _ (by decide +kernel)

/-! ### lazy invalidation (repo fix 35c5865) -/

/-- **a restart only marks**: the nodes between start and destination keep their results, processed marks and decisions
— a node that no iteration needs again is still there for whoever reads it from outside the subgraph (repo fix 35c5865; hiding
them all at once left such a reader waiting forever) -/
theorem C11_invalidated_nodes_keep_results (s : St) (ns : List Node) :
    (s.invalidate ns).res = s.res ∧ (s.invalidate ns).resHid = s.resHid ∧ (s.invalidate ns).proc = s.proc ∧
    (s.invalidate ns).procHid = s.procHid ∧ (s.invalidate ns).sw = s.sw ∧ (s.invalidate ns).hideCount = s.hideCount ∧
    ∀ n, n ∈ (s.invalidate ns).stale ↔ n ∈ ns ∨ n ∈ s.stale :=
  ⟨rfl, rfl, rfl, rfl, rfl, rfl, fun n => by simp [St.invalidate]⟩

/-- **a DAG that is about to run hides exactly its invalidated nodes** (result, processed mark, decision), which are then
no longer marked: they are executed again because this DAG needs them -/
theorem C11_starting_dag_hides_its_invalidated_nodes (s : St) (ns : List Node) (n : Node) (hn : n ∈ ns)
    (hst : n ∈ s.stale) :
    (s.refresh ns).resHid n = true ∧ (s.refresh ns).procHid n = true ∧ (s.refresh ns).sw n = none ∧
    (s.refresh ns).hideCount n = s.hideCount n + 1 ∧ n ∉ (s.refresh ns).stale := by
  have hc : (ns.filter s.stale.contains).contains n = true := by
    simp only [List.contains_iff_mem, List.mem_filter]
    exact ⟨hn, hst⟩
  rw [refresh_eq]
  simp only [St.hide, hc, if_true, List.mem_filter, Bool.not_true, Bool.false_eq_true, and_false, not_false_eq_true,
    and_self]

/-- … and nothing else: a node outside the DAG, or one that no restart has marked, keeps its state -/
theorem C11_starting_dag_leaves_the_rest (s : St) (ns : List Node) (n : Node) (hn : n ∉ ns ∨ n ∉ s.stale) :
    (s.refresh ns).resHid n = s.resHid n ∧ (s.refresh ns).procHid n = s.procHid n ∧ (s.refresh ns).sw n = s.sw n ∧
    (s.refresh ns).hideCount n = s.hideCount n ∧ (s.refresh ns).res n = s.res n ∧
    (n ∈ (s.refresh ns).stale ↔ n ∈ s.stale) := by
  have hc : (ns.filter s.stale.contains).contains n = false := by
    rw [← Bool.not_eq_true, List.contains_iff_mem, List.mem_filter, List.contains_iff_mem]
    exact fun h => hn.elim (· h.1) (· h.2)
  rw [refresh_eq]
  simp only [St.hide, hc, Bool.false_eq_true, if_false, List.mem_filter, Bool.not_false, and_true]

/-- the consumer of a switch of the DAG that starts waits for the new decision (the statement above, for the state the
DAG really starts in) -/
theorem C11_started_dag_consumer_waits_for_new_decision (P : Program) (s : St) (ns : List Node) (d : DagRef) (c S : Node)
    (hS : P.g.isSwitch S = true) (hin : S ∈ ns) (hst : S ∈ s.stale) (hpre : S ∈ P.g.preds c)
    (hc1 : P.g.isSwitch c = false) (hc2 : P.g.isOneofHead c = false) (hd : d.isRec = true → S ∈ d.nodes) :
    ready P (s.refresh ns) d c = false := by
  rw [refresh_eq]
  exact C11_consumer_waits_for_new_decision P s _ d c S hS
    (List.mem_filter.mpr ⟨hin, List.contains_iff_mem.mpr hst⟩) hpre hc1 hc2 hd

/-- a reader outside a recurrent subgraph of a node that no iteration needs again: `1 → 2 → 3`, `5 ← OneOf[4, 3]` (head `7`),
the destination `5` asks once for another iteration of `1 → 5`, the output `6` reads `5` *and* `2`.  Between `1` and `5`
lie `1, 2, 3, 7, 5`; the first candidate `4` succeeds, so `3` — and with it `2` and `1` — is never needed again -/
def demoReader : Program :=
  { g := { nodes := [0, 1, 2, 3, 4, 5, 6, 7],
           edges := [{ u := 0, v := 1, kwarg := some "a" }, { u := 1, v := 2, kwarg := some "a" },
                     { u := 2, v := 3, kwarg := some "a" }, { u := 0, v := 4 }, { u := 7, v := 5, kwarg := some "a" },
                     { u := 5, v := 6, kwarg := some "a" }, { u := 2, v := 6, kwarg := some "b" }, { u := 0, v := 7 },
                     { u := 4, v := 7 }, { u := 3, v := 7 }],
           attr := fun n => if n = 7 then { isOneofHead := true, oneofNodes := [4, 3], inMap := false }
                            else if n = 5 then { startNode := some 1, maxIter := some 2 }
                            else if n = 3 ∨ n = 4 then { isOneofChild := true } else {},
           input := 0, output := 6, order := [5, 6, 2, 1, 0, 7, 4, 3] },
    cfg := fun _ => {},
    body := fun n _ inv _ => if n = 5 ∧ inv = 0 then .ret (.recur (.str "d")) else .ret (.int n),
    dflt := fun _ _ => .none,
    inputKw := [] }

/-- a schedule of the real engine (recorded by the harness) in which `2` completes before the restart -/
def demoReaderRun : List Choice :=
  [.run 0 [] 0, .run 1 [0, 1, 7, 2, 5, 6] 0, .run 2 [] 0, .gate 0 0 1, .run 2 [] 0, .run 1 [] 0, .run 0 [] 0, .run 3 [] 0, .run 4 [] 0, .gate 1 0 1, .run 5 [4] 0, .run 3 [] 0, .run 6 [] 0, .run 1 [] 0, .gate 4 0 1, .run 0 [] 0, .run 7 [] 0, .run 6 [] 0, .gate 2 0 1, .run 0 [] 0, .run 4 [] 0, .run 5 [] 0, .run 7 [] 0, .run 1 [] 0, .run 0 [] 0, .run 8 [] 0, .gate 5 0 1, .run 8 [] 0, .run 9 [7, 5] 0, .run 10 [] 0, .run 11 [] 0, .run 9 [] 0, .run 0 [] 0, .run 12 [] 0, .gate 5 1 1, .run 12 [] 0, .run 1 [] 0, .run 0 [] 0, .run 9 [] 0, .run 13 [] 0, .gate 6 0 1, .run 13 [] 0, .run 0 [] 0, .run 1 [] 0]

/-- non-vacuity, and the shape that deadlocked between 12d4978 and 35c5865: **after the restart** (29 steps) the nodes
`1, 2, 3` are marked but visible, the destination and the one-of of the iteration DAG are hidden; **at the end** they are
still only marked (nobody needed them again), `2` has been executed once and never hidden, the destination twice — and the
run returned a value: the outside reader `6` got its arguments -/
example : (∃ s, runChoicesC11 demoReader init (demoReaderRun.take 29) = some s ∧ Reach demoReader s ∧
      s.stale = [1, 2, 3] ∧ s.resHid 2 = false ∧ s.resHid 5 = true ∧ s.resHid 7 = true) ∧
    (∃ s, runChoicesC11 demoReader init demoReaderRun = some s ∧ Reach demoReader s ∧ s.badOrd = false ∧
      s.stale = [1, 2, 3] ∧ s.resHid 2 = false ∧ s.hideCount 2 = 0 ∧ s.invCount 2 = 1 ∧ s.invCount 3 = 0 ∧
      s.invCount 5 = 2 ∧ ∃ v, s.outcome = some (.value v)) :=
  facts_of_run_at 29 demoReaderRun _ _ (by decide +kernel)

/-! ### switch readiness in the DAG of an iteration (repo fix 4bfc65e) -/

/-- **a switch is resolved as soon as its decision is known — in every DAG** (repo fix 4bfc65e): what a switch node waits
for are the sources of its decision edges only, whatever DAG launches it; in particular not a case node that happens to be
a node of the DAG of a restarted recurrent subgraph, which nothing orders before the switch there -/
theorem C11_switch_readiness_ignores_cases (P : Program) (s : St) (d : DagRef) (S : Node) (hS : P.g.isSwitch S = true) :
    predsFor P s d S =
      ((P.g.edges.filter (fun e => e.v == S && e.isSwitch)).map (·.u)).map
        (fun p => if P.g.isSwitch p then (match s.sw p with | some (_, c) => c | none => p) else p) := by
  unfold predsFor
  simp only [hS, if_true]
  rfl

theorem C11_switch_readiness_is_the_same_in_every_dag (P : Program) (s : St) (d d' : DagRef) (S : Node)
    (hS : P.g.isSwitch S = true) : ready P s d S = ready P s d' S := by
  unfold ready
  rw [C11_switch_readiness_ignores_cases P s d S hS, C11_switch_readiness_ignores_cases P s d' S hS]

end MLPE.Eng
