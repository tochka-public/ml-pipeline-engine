import MLPE.Proofs.CoreInv
import MLPE.Proofs.KwArgs

/-!
# C04 — each node executes at most once per run and iteration, whoever requests it

Statement about the engine model `MLPE.Eng` (all programs, all constructs, all interleavings of the
scopes that request a node, all completion orders, cancellation at any point).

`s.invCount n` counts the executions of node `n` in the run (it is incremented exactly where the
model marks the node processed and emits `on_node_start`; the lock-step check compares it with the
number of `on_node_start` events the real engine produced).  `s.hideCount n` counts how often
`hide_last_execution` hit `n`: that happens only to a node that a (re-)iteration of a recurrent
subgraph containing `n` has invalidated, when a DAG that contains it is about to run (C11), and once
more for a destination that falls back to its default.
-/
namespace MLPE.Eng

/-- **C04**: in every reachable state, for every node: executions ≤ 1 + number of re-iterations that
invalidated it — however many consumers, switch branches, one-of candidates or sub-pipeline scopes
reached it and however their requests interleaved. -/
theorem C04_at_most_once_per_iteration (P : Program) (s : St) (h : Reach P s) (n : Node) :
    s.invCount n ≤ s.hideCount n + 1 :=
  (coreInv_reach h n).1

/-- a node that is currently not marked processed has not been executed since its last invalidation -/
theorem C04_unprocessed_not_executed_in_epoch (P : Program) (s : St) (h : Reach P s) (n : Node)
    (hp : s.procExists n = false) : s.invCount n ≤ s.hideCount n :=
  (coreInv_reach h).unprocessed hp

/-- the only section that executes a node is the one that finds it unprocessed and marks it, atomically:
a second request (`procExists = true`) takes the waiting path and executes nothing. -/
theorem C04_second_request_waits (c : Ctx) (s : St) (obs : List Obs) (d : DagRef) (n : Node) (force : Bool)
    (below : List Frame) (hp : s.procExists n = true) :
    (nodeStart c s obs d n force below).1.invCount = s.invCount :=
  congrArg Core.invCount
    (show (nodeStart c s obs d n force below).1.core = s.core by
      unfold nodeStart; simp only [hp, if_true]; split <;> simp)

/-- every consumer reads the single stored result: the keyword arguments of a node other than the input node
are the stored results of its sources (for a switch: of the selected case), plus `additional_data` -/
theorem C04_consumers_read_stored_result (P : Program) (s : St) (n : Node) (kw : Kwargs)
    (h : nodeKwargs P s n = .ok kw) (hn : (n == P.g.input) = false) (k : String) (v : Val) (hk : (k, v) ∈ kw) :
    k = "additional_data" ∨ ∃ src, v = s.getHid src := by
  obtain ⟨kw0, hb, hkw⟩ := nodeKwargs_base h
  simp only [kwBase, hn, Bool.false_eq_true, if_false] at hb
  have h0 := fold_ok P s (I := fun _ kw => ∀ a b, (a, b) ∈ kw → ∃ src, b = s.getHid src)
    (fun _ kw e kw1 hI h1 a b hab => by
      rcases kwStep_ok h1 with ⟨_, rfl⟩ | ⟨_, src, _, rfl, _⟩
      · exact hI a b hab
      · rcases mem_insertKw.mp hab with h2 | h2
        · exact ⟨src, by cases h2; rfl⟩
        · exact hI a b h2.1)
    _ [] [] kw0 (fun _ _ h => nomatch h) hb
  rcases hkw with rfl | ⟨v0, rfl⟩
  · exact Or.inr (h0 k v hk)
  · rcases mem_insertKw.mp hk with h2 | h2
    · left; cases h2; rfl
    · exact Or.inr (h0 k v h2.1)

/-! Non-vacuity: the initial state is reachable and satisfies the invariant with equality possible after
one execution (see the lock-step corpus for reachable states with `invCount = hideCount + 1`). -/
example : Reach { g := ⟨[0], [], fun _ => {}, 0, 0, []⟩, cfg := fun _ => {}, body := fun _ _ _ _ => .ret .none,
                  dflt := fun _ _ => .none, inputKw := [] } init :=
  .init

end MLPE.Eng
