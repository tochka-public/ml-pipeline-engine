import MLPE.Proofs.SafeRun
import MLPE.Proofs.EngBasic
import MLPE.Proofs.Ledger

/-!
# C14 — lifecycle events form a well-formed history consistent with the run

General facts of the engine model (every program, every state; event managers may suspend inside any callback):
* the first thing `chart.run` does is `on_pipeline_start` (`C14_pipeline_start_first`); the last thing it does before
  returning is `on_pipeline_complete`, carrying the outcome it then returns (`C14_pipeline_complete_carries_result`);
  by C13 every later section of any task is a silent cancellation, so nothing follows it;
* a node execution starts with `on_node_start`, emitted in the very section that marks the node processed and
  before its first body call (`C14_node_start_first`);
* every attempt that raises an `Exception` is followed by exactly one `on_node_complete(error)`; the deciding attempt
  by `on_node_complete(None)` iff a value (body result or default) was produced (`C14_attempt_*`);
* the value is stored — and only thereby becomes visible to consumers and to `run()` — strictly after the
  successful `on_node_complete` has returned, even if the callback suspends (`C14_value_stored_after_complete`).
A `BaseException` outside `Exception` ends the node without `on_node_complete` (it is not the node's result).
A collaborator that *raises* (`cbRaise`): the exception is handed to the surrounding code (`C14_callback_raises`); inside a
node it ends the node's task after the `finally` notifications (`C14_node_callback_failure_ends_the_task`).
-/
namespace MLPE.Eng
open MLPE

theorem C14_pipeline_start_first (c : Ctx) (s : St) (obs : List Obs) :
    mgrStart c s obs =
      cbCall c .pstart 0 s (obs ++ [.pstart]) (fun j => [.mgrCbStart j]) (fun s obs => mgrBegin c s obs)
        (fun e s obs => mgrReturn c s obs (.raised e)) :=
  rfl

/-- `on_pipeline_complete(result)` is emitted with the outcome `o`, and what `chart.run` returns afterwards is `o` -/
theorem C14_pipeline_complete_carries_result (c : Ctx) (s : St) (obs : List Obs) (o : Outcome)
    (h : ∀ e, o ≠ .raised e) :
    mgrComplete c s obs o =
      cbCall c .pcomplete 0 s (obs ++ [.pcomplete o]) (fun j => [.mgrCbComplete j o])
        (fun s obs => mgrReturn c s obs o)
        (fun e s obs =>
          let twice := match o with | .value _ => e.isException | _ => false
          mgrReturn c s (if twice then obs ++ [.pcomplete (.error e)] else obs) (.raised e)) := by
  cases o <;> simp_all [mgrComplete]

theorem C14_return_reports_same_outcome (c : Ctx) (s : St) (obs : List Obs) (o : Outcome) :
    (mgrReturn c s obs o).1.outcome = some o :=
  rfl

/-- a node execution begins with `on_node_start`, in the section that marks it processed -/
theorem C14_node_start_first (c : Ctx) (s : St) (obs : List Obs) (d : DagRef) (n : Node) (force : Bool)
    (below : List Frame) (h : s.procExists n = false) :
    nodeStart c s obs d n force below =
      cbCall c .nstart n (s.markProcessed n) (obs ++ [.nstart n])
        (fun j => .node d n force (.cbStart j (s.invCount n)) :: below)
        (fun s' obs => nodeBegin c s' obs d n force below (s.invCount n))
        (fun e s' obs => nodeCbRaise c s' obs d n below e) := by
  simp [nodeStart, h]

/-- an attempt whose exception is retried: exactly one `on_node_complete(error=e)`, then the sleep -/
theorem C14_attempt_retried (c : Ctx) (s : St) (obs : List Obs) (d : DagRef) (n : Node) (force : Bool)
    (below : List Frame) (k : Nat) (kw : Kwargs) (inv : Nat) (e : Exc)
    (hr : (c.P.cfg n).retryable e = true) (hk : (k == (c.P.cfg n).attemptsEff) = false) :
    nodeAfterBody c s obs d n force below k kw inv (.raise e) =
      cbCall c .ncomplete n s (obs ++ [.ncomplete n (some e)]) (fun j => .node d n force (.cbRetry j k kw inv) :: below)
        (fun s obs => nodeSleep c s obs d n force below k kw inv)
        (fun e' s obs => nodeCbRaiseInTry c s obs d n below e') := by
  simp [nodeAfterBody, hr, hk]

/-- a produced value: exactly one `on_node_complete(error=None)`, then — and only then — the value is stored -/
theorem C14_attempt_succeeded (c : Ctx) (s : St) (obs : List Obs) (d : DagRef) (n : Node) (below : List Frame) (v : Val) :
    nodeSuccess c s obs d n below v =
      cbCall c .ncomplete n s (obs ++ [.ncomplete n none]) (fun j => .node d n false (.cbOk j v) :: below)
        (fun s obs => nodePost c s obs d n below v) (fun e s obs => nodeCbRaiseInTry c s obs d n below e) := rfl

/-- a default value is a value: `get_default`, then `on_node_complete(None)` -/
theorem C14_default_reports_no_error (c : Ctx) (s : St) (obs : List Obs) (d : DagRef) (n : Node) (below : List Frame)
    (kw : Kwargs) (h : c.P.dfltRaise n = none) :
    nodeDefault c s obs d n below kw = nodeSuccess c s (obs ++ [.dflt n kw]) d n below (c.P.dflt n kw) :=
  nodeDefault_of_none c s obs d n below kw h

/-- a `get_default` that raises is the node's failure: `get_default` once, then `on_node_complete(error=e)` with the
exception it raised -/
theorem C14_failing_default_reports_its_error (c : Ctx) (s : St) (obs : List Obs) (d : DagRef) (n : Node)
    (below : List Frame) (kw : Kwargs) (e : Exc) (h : c.P.dfltRaise n = some e) (he : e.isException = true) :
    nodeDefault c s obs d n below kw = nodeFail c s (obs ++ [.dflt n kw]) d n below e :=
  nodeDefault_of_some c s obs d n below kw h he

/-- a final failure: exactly one `on_node_complete(error=e)` with the exception the node raised -/
theorem C14_attempt_failed (c : Ctx) (s : St) (obs : List Obs) (d : DagRef) (n : Node) (below : List Frame) (e : Exc) :
    nodeFail c s obs d n below e =
      cbCall c .ncomplete n s (obs ++ [.ncomplete n (some e)]) (fun j => .node d n false (.cbFail j e) :: below)
        (fun s obs => nodeFailCont c s obs d n below e) (fun e' s obs => nodeCbRaise c s obs d n below e') := rfl

/-- while a callback is suspended nothing of the storage changes: in particular the node's value is not yet
visible to consumers or to `run()` when `on_node_complete` has not returned -/
theorem C14_value_stored_after_complete (c : Ctx) (s : St) (obs : List Obs) (frames : Nat → List Frame) (j : Nat)
    (k : St → List Obs → Out) :
    (cbThen c s obs frames (j + 1) k).1.res = s.res ∧ (cbThen c s obs frames (j + 1) k).1.resHid = s.resHid ∧
    (cbThen c s obs frames (j + 1) k).2 = obs := by
  simp only [cbThen, yieldNow]
  split <;> simp [St.setTask]

/-- a collaborator that returns (does not raise) is the suspension behaviour above -/
theorem C14_callback_returns (c : Ctx) (cb : Cb) (n : Node) (s : St) (obs : List Obs) (frames : Nat → List Frame)
    (kOk : St → List Obs → Out) (kErr : Exc → St → List Obs → Out) (h : c.P.cbRaise cb n = none) :
    cbCall c cb n s obs frames kOk kErr = cbThen c s obs frames (c.P.cbYield cb n) kOk := by
  simp [cbCall, h]

/-- a collaborator that raises: the exception goes to the surrounding code at once; a node's task runs the `finally` of
`_run_node` (everybody who may be waiting is notified) and ends with that exception, so `run()` reports it -/
theorem C14_callback_raises (c : Ctx) (cb : Cb) (n : Node) (s : St) (obs : List Obs) (frames : Nat → List Frame)
    (kOk : St → List Obs → Out) (kErr : Exc → St → List Obs → Out) (e : Exc) (h : c.P.cbRaise cb n = some e) :
    cbCall c cb n s obs frames kOk kErr = kErr e s obs := by
  simp [cbCall, h]

theorem C14_node_callback_failure_ends_the_task (c : Ctx) (s : St) (obs : List Obs) (d : DagRef) (n : Node) (e : Exc) :
    nodeCbRaise c s obs d n [] e = endTask c (nodeFinally c.P s d n true) obs (.exc e) := by
  simp [nodeCbRaise, raiseOut, unwindFrames]

/-- and when the callback does not suspend, the continuation runs on exactly the state the event was emitted in -/
theorem C14_no_suspension_continues_at_once (c : Ctx) (s : St) (obs : List Obs) (frames : Nat → List Frame)
    (k : St → List Obs → Out) : cbThen c s obs frames 0 k = k s obs := rfl

/-! ### Pipelines with switches: what the event manager is told, under every schedule -/

/-- **C14 (switch / one-of pipelines)**: success is reported only for a node that has a value; a reported node error is
an exception the body raised on the declared arguments, a collaborator's, or the stored failure of a dependency of a node
that therefore has no value -/
theorem C14_oneof_reports_are_truthful (P : Program) (val : Node → Option Val) (hone : OneP P)
    (hsol : SolutionOne P val) (s : St) (log : List Obs) (h : Exec P s log) :
    (∀ n, Obs.ncomplete n none ∈ log → (val n).isSome = true) ∧
    (∀ n e, Obs.ncomplete n (some e) ∈ log → (∃ k, P.body n (kwFrom P val n) 0 k = .raise e) ∨ CollabFails P e ∨
      (ErrCause P val e ∧ val n = none)) ∧
    (∀ e, Obs.pcomplete (.error e) ∈ log → ErrCause P val e) := by
  have hall := (safe_exec hone hsol h).2
  exact ⟨fun n hm => hall _ hm, fun n e hm => hall _ hm, fun e hm => hall _ hm⟩

/-- **C14 (switch pipelines)**: success is reported for a node only when the node has a value in the dataflow
semantics; an error reported for a node is an exception its body raised on the declared arguments, or a collaborator's;
the outcome reported by `on_pipeline_complete` is the output's value or an error with a cause -/
theorem C14_switch_reports_are_truthful (P : Program) (val : Node → Option Val) (hsw : SwP P)
    (hsol : SolutionSw P val) (s : St) (log : List Obs) (h : Exec P s log) :
    (∀ n, Obs.ncomplete n none ∈ log → (val n).isSome = true) ∧
    (∀ n e, Obs.ncomplete n (some e) ∈ log → (∃ k, P.body n (kwFrom P val n) 0 k = .raise e) ∨ CollabFails P e ∨
      (ErrCause P val e ∧ val n = none)) ∧
    (∀ v, Obs.pcomplete (.value v) ∈ log → val P.g.output = some v) ∧
    (∀ e, Obs.pcomplete (.error e) ∈ log → ErrCause P val e) := by
  obtain ⟨a, b, c⟩ := C14_oneof_reports_are_truthful P val hsw.toOneP (hsol.toOne hsw) s log h
  exact ⟨a, b, fun v hm => outcome_value_sw hsw ((safe_exec_sw hsw hsol h).2 _ hm), c⟩

/-! ### Over a whole run (all programs, all schedules) — `Proofs/Ledger.lean` -/

/-- **C14, every program, every schedule**: in every execution, every successful `on_node_complete(n, error=None)` is
paid for by an `on_node_start(n)` of its own — a node execution reports success at most once, whatever the number of
attempts, suspensions inside callbacks, scopes that request the node or cancellations — and `on_node_start` is emitted
exactly as often as the storage counts invocations of the node -/
theorem C14_one_success_per_start (P : Program) (s : St) (log : List Obs) (h : Exec P s log) (n : Node) :
    cnt (evO n) log ≤ cnt (evN n) log ∧ cnt (evN n) log = s.invCount n :=
  (ledger h n).2

/-- … hence (C04) a node outside every recurrent subgraph has at most one `on_node_start` and at most one successful
`on_node_complete` per run -/
theorem C14_at_most_one_start_outside_recurrent_subgraphs (P : Program) (s : St) (log : List Obs) (h : Exec P s log)
    (n : Node) (hinv : s.invCount n ≤ 1) : cnt (evN n) log ≤ 1 ∧ cnt (evO n) log ≤ 1 := by
  have := ledger h n
  omega

/-- **`on_pipeline_start` exactly at the beginning** (all programs, all schedules): the observation log of every execution is
empty, or begins with `on_pipeline_start` — or, the caller having been cancelled before `chart.run` got its first turn, with
the return of `CancelledError` —, and `on_pipeline_start` occurs at most once in it -/
theorem C14_pipeline_start_first_and_once (P : Program) (s : St) (log : List Obs) (h : Exec P s log) :
    (log = [] ∨ log.head? = some .pstart ∨ log.head? = some (.returned .cancelled)) ∧ cnt evP log ≤ 1 := by
  refine ⟨?_, (ledger_pipeline h).1⟩
  rcases first_event h with ⟨h0, _⟩ | h1
  · exact Or.inl h0
  · exact Or.inr h1

/-- **`on_pipeline_complete` at most once** for an event manager that does not raise in it (all programs, all schedules) -/
theorem C14_pipeline_complete_at_most_once (P : Program) (s : St) (log : List Obs) (h : Exec P s log)
    (hnr : P.cbRaise .pcomplete 0 = none) : cnt evC log ≤ 1 :=
  (ledger_pipeline h).2 hnr

/-- non-vacuity / sharpness: an event manager that raises in `on_pipeline_complete` on the success path is called twice
(chart.run's own `except Exception` reports the failure) — the hypothesis of the previous theorem cannot be dropped -/
example : ∀ (c : Ctx) (s : St) (v : Val) (e : Exc), c.P.cbRaise .pcomplete 0 = some e → e.isException = true →
    cnt evC (mgrComplete c s [] (.value v)).2 = 2 := by
  intro c s v e h he
  simp [mgrComplete, cbCall, h, he, mgrReturn, endTask]
  split <;> simp [cnt, evC]

end MLPE.Eng
