import MLPE.Proofs.SafeRun
import MLPE.Props.C10
import MLPE.Props.C04
import MLPE.Proofs.PlainSol
import MLPE.Proofs.Budget
import MLPE.Proofs.PlainDemo

/-!
# C03 — a node starts only after its inputs are final and gets exactly their values

General facts of the engine model (every program, every state):
* the launch loop starts a node only in a section in which `ready` holds, i.e. every source (for a switch
  source: the selected case) has a stored, visible, non-`Recurrent` result (`C03_launch_only_when_ready`,
  `C03_ready_iff_sources_final`);
* the keyword arguments are exactly the stored results of the sources, one per declared parameter name
  (`C03_kwargs_are_stored_results`), and the input node gets the caller's `input_kwargs`
  (`C03_input_node_gets_callers_kwargs`).
**Plain pipelines, all schedules**: whenever a node body is being / has been
invoked in a pending run, its arguments are exactly the dataflow values of its declared sources under the declared
names (`kwFrom`), all of which exist, and no argument is a failure object or a `Recurrent` marker
(`C03_plain_invocation_arguments`, `C03_plain_no_failure_objects`).  A consumer is never called with an exception
object stored by a one-of scope: it fails with that error instead (`C03_exception_value_fails_consumer`, all programs).
That the stored results are the *final* values of the dataflow semantics (never rewritten in plain pipelines,
superseded only through `hide` in recurrent ones) is `C01`'s invariant; the shapes where the real engine
violates this (exception object through a switch inside a one-of candidate; `None` for a hidden result read
through a stale event) are outside the fragments and recorded as findings in DESIGN.md §5.
-/
namespace MLPE.Eng
open MLPE

/-- readiness = every (resolved) source has a stored, visible result that is not a `Recurrent` marker -/
theorem C03_ready_iff_sources_final (P : Program) (s : St) (d : DagRef) (n : Node) :
    ready P s d n = true ↔ ∀ p ∈ predsFor P s d n, s.exists p = true ∧ (s.get p).isRecur = false := by
  simp [ready, List.all_eq_true]

/-- the launch loop does not start `n` (nor anything after it in the order) while `n` is not ready: it blocks on
`cond[n]` and creates no task -/
theorem C03_launch_only_when_ready (c : Ctx) (d : DagRef) (below : List Frame) (s : St) (obs : List Obs)
    (n : Node) (rest : List Node) (h : ready c.P s d n = false) :
    dagLaunch c d below s obs (n :: rest) = block c s obs (.dagLaunch d (n :: rest) :: below) (.cond (.node n)) := by
  simp [dagLaunch, h]

/-- when `n` is ready (and its one-of scope has not failed) exactly one task is created for it, then the loop
goes on with the rest of the order -/
theorem C03_launch_when_ready (c : Ctx) (d : DagRef) (below : List Frame) (s : St) (obs : List Obs)
    (n : Node) (rest : List Node) (h : ready c.P s d n = true) (ho : (d.isOneof && hasError s d) = false) :
    dagLaunch c d below s obs (n :: rest) =
      dagLaunch c d below (spawn s [launchFrame c.P d n] (.node n)).1
        (obs ++ [.spawn s.tasks.length (.node n)]) rest := by
  simp [dagLaunch, h, ho, spawn]

/-- every keyword argument of a non-input node is the stored result of one of its sources -/
theorem C03_kwargs_are_stored_results (P : Program) (s : St) (n : Node) (kw : Kwargs)
    (h : nodeKwargs P s n = .ok kw) (hn : (n == P.g.input) = false) (k : String) (v : Val) (hk : (k, v) ∈ kw) :
    k = "additional_data" ∨ ∃ src, v = s.getHid src :=
  C04_consumers_read_stored_result P s n kw h hn k v hk

/-- the input node receives exactly the caller's `input_kwargs` (plus `additional_data` when it restarts a
recurrent subgraph) -/
theorem C03_input_node_gets_callers_kwargs (P : Program) (s : St) (h : s.additional P.g.input = none) :
    nodeKwargs P s P.g.input = .ok P.inputKw := by
  simp [nodeKwargs, kwBase, h]

/-! Non-vacuity: a two-node chain whose source has a stored result is ready; without it, it is not. -/
example :
    let P : Program := { g := ⟨[0, 1], [{ u := 0, v := 1, kwarg := some "a" }], fun _ => {}, 0, 1, []⟩, cfg := fun _ => {},
                         body := fun _ _ _ _ => .ret .none, dflt := fun _ _ => .none, inputKw := [] }
    let d : DagRef := { source := 0, dest := some 1, nodes := [0, 1] }
    ready P init d 1 = false ∧ ready P (init.setRes 0 (.str "x")) d 1 = true := by
  decide

/-- a source whose stored result is an exception object (kept as a value inside a one-of scope) makes the consumer
fail with that exception: it is never passed on as an argument (all programs, all states) -/
theorem C03_exception_value_fails_consumer (kw : Kwargs) (k : String) (e : Exc) :
    kwPut kw k (.exc e) = .err e := rfl

theorem C03_no_exception_object_in_kwargs (kw kw' : Kwargs) (k : String) (v : Val) (h : kwPut kw k v = .ok kw') :
    v.isExc = false :=
  (kwPut_ok' h).2

/-- **C03 (plain pipelines, all schedules)**: in every state of a pending run, a node task that is executing its body
(attempt `k`, arguments `kw`; not finished, not cancelled) was given exactly the dataflow values of its sources, all of which exist; it is the
node's first and only invocation -/
theorem C03_plain_invocation_arguments (P : Program) (d : DagRef) (val : Node → Option Val) (hp : PlainP P d)
    (hsol : Solution P d val) (s : St) (h : Live P s) (hpending : s.outcome = none) (t : Nat) (tk : Task)
    (n : Node) (k : Nat) (kw : Kwargs) (inv : Nat) (ht : s.tasks[t]? = some tk)
    (hf : tk.frames = [.node d n false (.body k kw inv)]) (hname : tk.name = .node n)
    (hlive : tk.isDone = false ∧ tk.mustCancel = false) :
    kw = kwFrom P val n ∧ (∀ p ∈ P.g.preds n, (val p).isSome = true) ∧ inv = 0 ∧ 1 ≤ k ∧ k ≤ (P.cfg n).attemptsEff := by
  have hinv : PInv P d val s := by
    rcases pinv_live (val := val) hp h hpending with hinv | ⟨o, hfin⟩
    · exact hinv
    · -- finishing phase: every task but the caller's is finished or cancelled
      exfalso
      by_cases ht0 : t = 0
      · subst ht0
        obtain ⟨j, mc, hc0⟩ := hfin.caller
        rw [hc0] at ht; cases ht; simp at hf
      · have := (hfin.others t tk ht0 ht).1
        simp [Task.marked, hlive.1, hlive.2] at this
  obtain ⟨L, hr, _⟩ := hinv.role ht
  -- with the frame stack put in, only the two roles "in the body" fit the task
  obtain ⟨frames, st, mc, name⟩ := tk
  cases hf
  cases hname
  cases hr with
  | caller hc => cases hc
  | main hm => cases hm
  | node i hi hok =>
    cases hok with
    | inBody _ _ _ _ _ h3 | bodyDone _ _ _ _ _ h3 =>
      have a := h3 hsol
      exact ⟨a.kw_eq, List.all_eq_true.mp a.preds, a.inv0, a.kpos, a.kle⟩

/-- no argument of a node of a plain pipeline is a failure object or a `Recurrent` marker -/
theorem C03_plain_no_failure_objects (P : Program) (d : DagRef) (val : Node → Option Val) (hp : PlainP P d)
    (s : St) (h : Live P s) (hpending : s.outcome = none) (hrun : ∀ o, ¬ Fin P d val o s) (n : Node) (v : Val)
    (hr : s.res n = some v) : v.isRecur = false ∧ v.isExc = false := by
  rcases pinv_live (val := val) hp h hpending with hinv | ⟨o, hf⟩
  · exact hinv.noRecRes n v hr
  · exact absurd hf (hrun o)

/-! ### Pipelines with switches: every body invocation, under every schedule (observation log) -/

/-- **C03 (switch pipelines)**: whenever a node body is observed being invoked in any execution, every source of the
node has a value in the dataflow semantics, the arguments are exactly those values under the declared names — for a
switch parameter the value of the selected case — and it is the node's first and only invocation -/
theorem C03_switch_body_arguments (P : Program) (val : Node → Option Val) (hsw : SwP P) (hsol : SolutionSw P val)
    (s : St) (log : List Obs) (h : Exec P s log) (n inv k : Nat) (kw : Kwargs) (hb : Obs.body n inv k kw ∈ log) :
    kw = kwFrom P val n ∧ (∀ p ∈ P.g.preds n, (val p).isSome = true) ∧ inv = 0 :=
  C10_body_arguments P val hsw.toOneP (hsol.toOne hsw) s log h n inv k kw hb

/-- no stored result of a switch pipeline is a failure object or a `Recurrent` marker, and each is the final value of
its node -/
theorem C03_switch_results_final (P : Program) (val : Node → Option Val) (hsw : SwP P) (hsol : SolutionSw P val)
    (s : St) (h : Reach P s) (n : Node) (v : Val) (hr : s.res n = some v) :
    val n = some v ∧ v.isRecur = false ∧ v.isExc = false :=
  have hne := (safe_reach_sw hsw hsol h).data.noExc hsw.noHeads n v hr
  ⟨(safe_reach_sw hsw hsol h).data.agree n v hr hne, (safe_reach_sw hsw hsol h).data.vals n v hr, hne⟩

/-! ### Pipelines with switches and one-ofs: every body invocation, under every schedule -/

/-- **C03 (switch / one-of pipelines)**: every observed body call has exactly the dataflow values of its sources as
arguments (selected case for a switch, first successful candidate for a one-of), all sources have values — so no argument
is a failure stored by a one-of scope —, first invocation -/
theorem C03_oneof_body_arguments (P : Program) (val : Node → Option Val) (hone : OneP P) (hsol : SolutionOne P val)
    (s : St) (log : List Obs) (h : Exec P s log) (n inv k : Nat) (kw : Kwargs) (hb : Obs.body n inv k kw ∈ log) :
    kw = kwFrom P val n ∧ (∀ p ∈ P.g.preds n, (val p).isSome = true) ∧ inv = 0 :=
  C10_body_arguments P val hone hsol s log h n inv k kw hb

/-! ### The shape of the arguments, over a whole run (all programs, all schedules) — `Proofs/KwArgs.lean`, `Proofs/Budget.lean` -/

/-- **C03, every program, every schedule: exactly one keyword argument per declared parameter.**  Every body call any
execution ever makes of a node other than the input node — first attempt or retry, in any scope, after any restart — gets
an entry for every parameter declared for the node (the `kwarg` names of its incoming edges), no other key except
`additional_data`, no key twice, and never an exception object as the value of a declared parameter -/
theorem C03_every_body_call_gets_the_declared_parameters (P : Program) (s : St) (log : List Obs) (h : Exec P s log)
    (n : Node) (inv k : Nat) (kw : Kwargs) (hm : Obs.body n inv k kw ∈ log) (hn : (n == P.g.input) = false) :
    KwOK P n kw :=
  ((budget_exec h).2 _ hm).2.2 hn

/-- **the input node receives exactly the caller's `input_kwargs`** — plus `additional_data` when it is the start node of a
recurrent subgraph that has been restarted — in every body call of every execution -/
theorem C03_input_node_gets_the_callers_kwargs (P : Program) (s : St) (log : List Obs) (h : Exec P s log)
    (inv k : Nat) (kw : Kwargs) (hm : Obs.body P.g.input inv k kw ∈ log) :
    kw = P.inputKw ∨ ∃ v, kw = insertKw P.inputKw "additional_data" v :=
  ((budget_exec h).2 _ hm).2.1 (by simp)

/-- `get_default` is called with arguments of the same shape (C12: with the arguments of the attempts) -/
theorem C03_default_gets_the_declared_parameters (P : Program) (s : St) (log : List Obs) (h : Exec P s log)
    (n : Node) (kw : Kwargs) (hm : Obs.dflt n kw ∈ log) (hn : (n == P.g.input) = false) : KwOK P n kw :=
  ((budget_exec h).2 _ hm).2.2 hn

/-- non-vacuity: in the demo run of the diamond node 1 (one declared parameter) is called with exactly that parameter -/
example : (execLog demoDiamond init [] demoSchedule).map (fun r =>
      r.2.filterMap (fun o => match o with | .body 1 _ _ kw => some (keysOf kw, declared demoDiamond 1) | _ => none)) =
    some [(["a"], ["a"])] := by decide +kernel

end MLPE.Eng
