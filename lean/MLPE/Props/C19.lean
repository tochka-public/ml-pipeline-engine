import MLPE.Proofs.SafeRun
import MLPE.Props.C04
import MLPE.Props.C11
import MLPE.Proofs.EngBasic
import MLPE.Proofs.Ledger
import MLPE.Proofs.RecScope
import MLPE.Proofs.PlainDemo

/-!
# C19 — a configured artifact store receives each node's final value exactly once

General fact of the engine model (after fix c29fd0e): the only place where the model calls the artifact
store is `nodePost`, and it does so iff the current task executed the node itself and the result is a real
value — never a `Recurrent` marker, never a contained failure, never the re-read of a late duplicate
request — and the value it saves is the value it has just stored for the consumers.
Recurrent re-iterations still save every iteration's value of the inner nodes (listed finding, DESIGN §5).
-/
namespace MLPE.Eng
open MLPE

/-- the save observation of `nodePost`, if any, is `save n v` with the value just stored -/
theorem C19_saves_only_real_values_of_executed_nodes (c : Ctx) (s : St) (obs : List Obs) (d : DagRef) (n : Node)
    (below : List Frame) (v : Val) (executedHere : Bool) :
    nodePost c s obs d n below v executedHere =
      if executedHere && !v.isRecur && !v.isExc then
        cbCall c .save n (storeIf (recSpawn c.P s d n v) executedHere n v)
          ((if recSpawns c.P s n v then obs ++ [.spawn s.tasks.length (.recur n)] else obs) ++ [.save n v])
          (fun j => .node d n false (.cbSave j) :: below)
          (fun s obs => nodeFinish c s obs d n below) (fun e s obs => nodeCbRaise c s obs d n below e)
      else
        retTo c (nodeFinally c.P (storeIf (recSpawn c.P s d n v) executedHere n v) d n (!v.isRecur))
          (if recSpawns c.P s n v then obs ++ [.spawn s.tasks.length (.recur n)] else obs) below .none := by
  simp [nodePost]

/-- a task that merely waited for the node (late duplicate request) neither stores nor saves anything -/
theorem C19_duplicate_request_stores_nothing (s : St) (n : Node) (v : Val) : storeIf s false n v = s := rfl

/-- a `Recurrent` marker or a contained failure is never passed to the artifact store: `nodePost` adds no
`save` observation for such a result -/
theorem C19_no_marker_or_failure_saved (c : Ctx) (s : St) (obs : List Obs) (d : DagRef) (n : Node)
    (below : List Frame) (v : Val) (e : Bool) (hv : v.isRecur = true ∨ v.isExc = true) (m : Node) (w : Val)
    (h : Obs.save m w ∈ (nodePost c s obs d n below v e).2) : Obs.save m w ∈ obs := by
  have hcond : (e && !v.isRecur && !v.isExc) = false := by
    rcases hv with h1 | h1 <;> simp [h1]
  simp only [nodePost, hcond, Bool.false_eq_true, if_false, retTo_finish] at h
  -- the return adds at most the task's `done`; before it, at most the spawning of the recurrent subgraph's task
  rcases mem_finish_obs h with h | ⟨_, h⟩
  · split at h
    · simpa using h
    · exact h
  · cases h

/-- the value the consumers read is the value that was saved: both are `v` -/
theorem C19_saved_value_is_stored_value (s : St) (n : Node) (v : Val) : (storeIf s true n v).getHid n = v := by
  simp [storeIf, St.setRes, St.getHid]

/-! ### Pipelines with switches: what is saved, under every schedule -/

/-- **C19 (switch pipelines)**: every value handed to the artifact store is the final value of its node — the value
the dataflow semantics assigns to it, which is also the value every consumer receives (`C03_switch_body_arguments`) —
and is neither a `Recurrent` marker nor an exception object -/
theorem C19_switch_saved_value_is_final (P : Program) (val : Node → Option Val) (hsw : SwP P)
    (hsol : SolutionSw P val) (s : St) (log : List Obs) (h : Exec P s log) (n : Node) (v : Val)
    (hm : Obs.save n v ∈ log) : val n = some v ∧ v.isRecur = false ∧ v.isExc = false :=
  (safe_exec_sw hsw hsol h).2 _ hm

/-- two saves of one node — in one run or in two — carry the same value -/
theorem C19_switch_saves_agree (P : Program) (val : Node → Option Val) (hsw : SwP P) (hsol : SolutionSw P val)
    (s₁ s₂ : St) (log₁ log₂ : List Obs) (h₁ : Exec P s₁ log₁) (h₂ : Exec P s₂ log₂) (n : Node) (v₁ v₂ : Val)
    (hm₁ : Obs.save n v₁ ∈ log₁) (hm₂ : Obs.save n v₂ ∈ log₂) : v₁ = v₂ :=
  Option.some.inj ((C19_switch_saved_value_is_final P val hsw hsol s₁ log₁ h₁ n v₁ hm₁).1.symm.trans
    (C19_switch_saved_value_is_final P val hsw hsol s₂ log₂ h₂ n v₂ hm₂).1)

/-- **C19 (switch / one-of pipelines)**: every value handed to the artifact store is the final value of its node, never an
exception object stored by a one-of scope and never a marker -/
theorem C19_oneof_saved_value_is_final (P : Program) (val : Node → Option Val) (hone : OneP P)
    (hsol : SolutionOne P val) (s : St) (log : List Obs) (h : Exec P s log) (n : Node) (v : Val)
    (hm : Obs.save n v ∈ log) : val n = some v ∧ v.isRecur = false ∧ v.isExc = false :=
  (safe_exec hone hsol h).2 _ hm

/-! ### Exactly once, over a whole run (all programs, all schedules) — `Proofs/Ledger.lean` -/

/-- number of `artifact_store.save(node_id = n, …)` calls in a log -/
def savesOf (n : Node) (log : List Obs) : Nat := cnt (evS n) log
/-- number of `on_node_complete(node_id = n, error = None)` in a log -/
def successesOf (n : Node) (log : List Obs) : Nat := cnt (evO n) log
/-- number of `on_node_start(node_id = n)` in a log -/
def startsOf (n : Node) (log : List Obs) : Nat := cnt (evN n) log

/-- **C19, every program, every schedule**: in every execution, each save of node `n` is paid for by an execution of `n`
of its own that reported success: saves ≤ successful completions ≤ starts = the storage's invocation counter.  No task
that merely waited for the node, no second scope that reaches it, no retry and no cancellation adds a save. -/
theorem C19_each_save_has_its_own_successful_execution (P : Program) (s : St) (log : List Obs) (h : Exec P s log)
    (n : Node) : savesOf n log ≤ successesOf n log ∧ successesOf n log ≤ startsOf n log ∧ startsOf n log = s.invCount n :=
  ledger h n

/-- with C04: at most one save per execution epoch of the node (one more than the number of times a restart of a
recurrent subgraph has invalidated it) -/
theorem C19_saves_bounded_by_invalidations (P : Program) (s : St) (log : List Obs) (h : Exec P s log) (n : Node) :
    savesOf n log ≤ s.hideCount n + 1 := by
  have a := ledger h n
  have b := C04_at_most_once_per_iteration P s h.reach n
  simp only [savesOf]
  omega

/-- **at most once**: a node that belongs to no recurrent subgraph is saved at most once in a run, whoever requests it,
however the requests interleave (launch orders admissible) -/
theorem C19_at_most_one_save_outside_recurrent_subgraphs (P : Program) (s : St) (log : List Obs) (h : Exec P s log)
    (n : Node) (hout : ¬ InRecScope P n) (hord : s.badOrd = false) : savesOf n log ≤ 1 := by
  have a := ledger h n
  have b := C11_outside_nodes_run_at_most_once P s h.reach n hout hord
  simp only [savesOf]
  omega

/-- non-vacuity: the demo schedule of the diamond is an execution in which node 0 is saved — exactly once -/
example : (execLog demoDiamond init [] demoSchedule).map (fun r => (savesOf 0 r.2, startsOf 0 r.2, savesOf 3 r.2)) =
    some (1, 1, 0) := by decide +kernel

end MLPE.Eng
