import MLPE.Basic
import MLPE.Store
import MLPE.Retry
import MLPE.Eng
import MLPE.Sem
import MLPE.Builder
import MLPE.Viewer
import MLPE.PlainSpec
import MLPE.LiveSpec
import MLPE.Proofs.Store
import MLPE.Proofs.Retry
import MLPE.Proofs.Builder
import MLPE.Proofs.GraphReach
import MLPE.Proofs.Sections
import MLPE.Proofs.EngBasic
import MLPE.Proofs.Acts
import MLPE.Proofs.CoreInv
import MLPE.Proofs.RecScope
import MLPE.Proofs.Ledger
import MLPE.Proofs.KwArgs
import MLPE.Proofs.Budget
import MLPE.Proofs.WakeUp
import MLPE.Proofs.Specs
import MLPE.Proofs.Plain
import MLPE.Proofs.PlainNode
import MLPE.Proofs.PlainMain
import MLPE.Proofs.PlainRun
import MLPE.Proofs.PlainDemo
import MLPE.Proofs.PlainSol
import MLPE.Proofs.Safe
import MLPE.Proofs.SafeNode
import MLPE.Proofs.SafeDag
import MLPE.Proofs.SafeRun
import MLPE.Proofs.SafeDemo
import MLPE.Proofs.OneDemo
import MLPE.Proofs.Live
import MLPE.Proofs.LiveStep
import MLPE.Proofs.LiveDag
import MLPE.Proofs.LiveNode
import MLPE.Proofs.LiveRun
import MLPE.Proofs.LiveCheck
import MLPE.Proofs.DriverBody
import MLPE.Props.C01
import MLPE.Props.C02
import MLPE.Props.C03
import MLPE.Props.C04
import MLPE.Props.C05
import MLPE.Props.C06
import MLPE.Props.C07
import MLPE.Props.C08
import MLPE.Props.C09
import MLPE.Props.C10
import MLPE.Props.C11
import MLPE.Props.C12
import MLPE.Props.C13
import MLPE.Props.C14
import MLPE.Props.C15
import MLPE.Props.C16
import MLPE.Props.C17
import MLPE.Props.C18
import MLPE.Props.C19
import MLPE.Props.C20
